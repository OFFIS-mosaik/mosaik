import MosaikProofs.Lemmas.Assoc
import MosaikProofs.Lemmas.Tiered
import MosaikProofs.Lemmas.Groups
import MosaikProofs.Lemmas.IOSet
import MosaikProofs.Lemmas.SchedBasics
import MosaikProofs.Lemmas.Data
import MosaikProofs.Lemmas.Shutdown
import MosaikProofs.Sched.Blocks
import MosaikProofs.Sched.Inv
import MosaikProofs.Sched.Reach
import MosaikProofs.Sched.WF
import MosaikProofs.Sched.Trace
import MosaikProofs.Sched.Sources
import MosaikProofs.Sched.Taint
import MosaikProofs.Sched.Shield
import MosaikProofs.Sched.Settles
import MosaikProofs.Sched.Capped
import MosaikProofs.Sched.Await
import MosaikProofs.Sched.Done
import MosaikProofs.Sched.Quiescent
import MosaikProofs.Sched.Shape
import MosaikProofs.Sched.Deadlock
import MosaikProofs.Sched.Complete
import MosaikProofs.Sched.Bound
import MosaikProofs.Sched.Terminate
import MosaikProofs.Sched.Others
import MosaikProofs.Sched.Eager
import MosaikProofs.Sched.Buffer
import MosaikProofs.Sched.BufferSrc
import MosaikProofs.Sched.Prune
import MosaikProofs.Sched.Cached
import MosaikProofs.Sched.CacheRef
import MosaikProofs.Sched.AsyncGet
import MosaikProofs.Sched.PushRef
import MosaikProofs.Sched.CachePush
import MosaikProofs.Sched.WFLive
import MosaikProofs.Closure.Worklist
import MosaikProofs.Closure.Sound
import MosaikProofs.Closure.Complete
import MosaikProofs.Closure.AncTable
import MosaikProofs.Closure.Terminate
import MosaikProofs.Build.Invariant
import MosaikProofs.Build.RunConfig
import MosaikProofs.Build.FlatRank
import MosaikProofs.Properties.C01
import MosaikProofs.Properties.C02
import MosaikProofs.Properties.C03
import MosaikProofs.Properties.C04
import MosaikProofs.Properties.C05
import MosaikProofs.Properties.C06
import MosaikProofs.Properties.C07
import MosaikProofs.Properties.C08
import MosaikProofs.Properties.C09
import MosaikProofs.Properties.C10
import MosaikProofs.Properties.C11
import MosaikProofs.Properties.C12
import MosaikProofs.Properties.C13
import MosaikProofs.Properties.C14
import MosaikProofs.Properties.C15
import MosaikProofs.Properties.C16
import MosaikProofs.Properties.C17
import MosaikProofs.Properties.C18
import MosaikProofs.Findings
