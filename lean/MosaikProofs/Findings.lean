/-
For each known finding that concerns a theorem: the negation of the property on a concrete
witness, proved by evaluation of the model in the kernel (`decide +kernel`).  The check of the property replays a witness on the real
code on every run: the one evaluated here for C08 only (for C09 and C17 `max_loop`, `until` or `cache`
differ, for C03 it is a scenario).
-/
import MosaikProofs.Build.RunConfig
import MosaikModel.Deliver
namespace Mosaik.Findings
open Mosaik TI

/-- C08-mixed-cutoff: for two delays of different cutoff `<` can hold although the "smaller" one
arrives later -/
theorem c08_mixed_cutoff :
    let a : TI := ⟨2, 2, [0, 1, 0]⟩
    let b : TI := ⟨2, 1, [0, 1, 1]⟩
    lt? a b = some true ∧ act [0, 5] b < act [0, 5] a := by decide +kernel

/-- … and two delays with equal tiers but different cutoffs are neither `<` nor `==`, so the
derived `>` holds in both directions -/
theorem c08_mixed_cutoff_unordered :
    let a : TI := ⟨2, 2, [0, 1]⟩
    let b : TI := ⟨2, 1, [0, 1]⟩
    gt? a b = some true ∧ gt? b a = some true := by decide +kernel

/-- C09-shift-carries-substep (D20): one event-based simulator in a group, a weak self-connection (the same-time loop) and a
time-shifted self-connection (the hand-over to the next time step), `max_loop_iterations = 2`.  The loop needs two sub-steps per
time step: (0,0) triggers (0,1), whose output - shifted by one - triggers (1,1): the sub-step index is carried into time 1.  The loop
event of (1,1) demands (1,2) and the guard fires, although at time 1 a single sub-step has been performed and the blocked one would
only be the second - "loops that settle within the bound are never interrupted" fails, for the scenario built by these calls. -/
def d20Ops : List Build.Op :=
  [ .start { ty := .eventBased, group := [0],
             cls := (parseAttrs { anyInputs := false, attrs := some [0, 1, 2, 3] } .eventBased).getD default },
    .connect { src := 0, seid := 0, dst := 0, deid := 0, pairs := [(3, 1)], weak := true },
    .connect { src := 0, seid := 1, dst := 0, deid := 0, pairs := [(2, 0)], timeShifted := 1 },
    .initEv 0 0 ]

def d20Cfg : Cfg :=
  Build.runCfg ((cacheTriggeringAncestors (Build.build d20Ops).sims []).toOption.getD []) 3 2 true false false

def d20Run : List Action :=
  [.stepReply 0 .none, .dataReply 0 { data := [((0, 3), some 1)] },      -- (0,0): loop event
   .stepReply 0 .none, .dataReply 0 { data := [((1, 2), some 2)] },      -- (0,1): settled, hand-over over the shifted connection
   .stepReply 0 .none, .dataReply 0 { data := [((0, 3), some 3)] }]      -- (1,1): loop event -> (1,2) is refused

theorem c09_shift_carries_substep :
    d20Cfg.maxLoop = 2 ∧
    ((d20Run.foldlM (deliver d20Cfg) (startAll d20Cfg (initState d20Cfg))).map fun s =>
      (s.failed, (s.sims 0).begun, ((s.sims 0).begun.filter fun t => tier t 0 == 1).length)) =
        some (some (.loop 0), [[1, 1], [0, 1], [0, 0]], 1) := by
  decide +kernel

/-- C03-same-connection-events-collapse, on a hand-written buffer (no configuration, no run): with two event values of one
connection (same input key) due at 3 and 4, at step time 4 `TimedInputBuffer.get_input` hands over one value per key - the
later one - and empties the buffer, so the value 11 is never delivered ("each produced value exactly once" fails by design of
the step request: one slot per (input attribute, source entity)) -/
theorem c03_same_connection_events_collapse :
    let k : InKey := { eid := 0, attr := 0, ssid := 0, seid := 0 }
    let buf : List BufEntry := [{ time := 3, ctr := 0, key := k, val := some 11 }, { time := 4, ctr := 1, key := k, val := some 27 }]
    bufferTake buf 4 [] = ([(k, some 27)], []) := by decide +kernel

/-- C17-instant-too-slow (D13): A → B, rt_factor 1, every reply arrives without any real time passing
between the step request and the reply (no `tick` between a `deps` and the replies of that step), and
yet `rt_check` reports B's step at time 0 as too slow: it could only begin at clock 1. -/
def d13Cfg : Cfg :=
  { sims := [ { ty := .timeBased, next0 := [[0]], outReq := [(0, 0)], succs := [(1, ⟨1, 1, [0]⟩)],
                push := [((0, 0), 1, ⟨1, 1, [0]⟩, (0, 0))] },
              { ty := .timeBased, next0 := [[0]], inputDelays := [(0, ⟨1, 1, [0]⟩)] } ],
    until_ := 2, lazy_ := true, useCache := false, rt := some 1 }

def d13Run : List Action :=
  [.start 0, .start 1, .deps 0, .stepReply 0 (.int 1), .dataReply 0 { data := [((0, 0), some 7)] },
   .tick 1, .wake 0, .deps 1, .stepReply 1 (.int 1)]

theorem c17_instant_too_slow :
    ((exec d13Cfg (initState d13Cfg) d13Run).map fun s =>
      (s.failed.isNone, s.clock, s.log.any fun e => match e with | .rtWarn 1 => true | _ => false)) = some (true, 1, true) := by
  decide +kernel

end Mosaik.Findings
