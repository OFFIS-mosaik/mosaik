/-
The run form of the `max_advance` promise (C07).

`Shield cfg s p c m`: in state `s` nothing outside `p` is in a position to cause a step of `p` at a
time `≤ m`: every step in flight or scheduled of every triggering ancestor (other than `p`), delayed
by the minimal trigger-path delay, lies after `m`; every step scheduled for `p` lies after `m`; and
the step `p` has in flight is the promised step `c` or lies after `m`.

`ShieldT cfg s p c m T` is the same with an exception for the steps in `T`, which `taintStep` (`Sched/Taint.lean`) keeps
equal to the steps traceable to `p` itself: `shieldT_step` says that ANY action preserves it.  No invariant is needed,
only the configuration facts `WFCfg` (the ancestor table covers direct triggers and is closed under prefixing a trigger
connection).

`Quiet cfg p m a`: the action is not one of `p`'s own causes inside the window: `p` does not
schedule itself at a time `≤ m`, and does not produce an output that triggers itself or one of its
own triggering ancestors.  (Those are the causes the property allows: "traceable to `p`'s own
output or self-schedule".)  What a quiet action makes traceable is harmless (`quiet_taint`), so a quiet action
preserves the shield itself (`shield_step`).
-/
import MosaikProofs.Sched.Sources
import MosaikProofs.Sched.Trace
import MosaikProofs.Sched.Taint
namespace Mosaik

structure Shield (cfg : Cfg) (s : State) (p : Sid) (c : TT) (m : Nat) : Prop where
  cur : ∀ ad ∈ (cfg.sim p).trigAnc, ad.1 ≠ p → ∀ x, (s.sims ad.1).cur = some x → m < TT.time (TI.act x ad.2)
  next : ∀ ad ∈ (cfg.sim p).trigAnc, ad.1 ≠ p → ∀ x ∈ (s.sims ad.1).next, m < TT.time (TI.act x ad.2)
  own : ∀ x ∈ (s.sims p).next, m < TT.time x
  pcur : ∀ x, (s.sims p).cur = some x → x = c ∨ m < TT.time x

def Quiet (cfg : Cfg) (p : Sid) (m : Nat) : Action → Prop
  | .stepReply q r => q = p → ∀ n : Int, r = .int n → (m : Int) < n
  | .dataReply q d => q = p → ∀ tr ∈ (cfg.sim p).triggers, OutData.has d.data tr.1 = true →
      tr.2.1 ≠ p ∧ ∀ ad ∈ (cfg.sim p).trigAnc, ad.1 ≠ p → ad.1 ≠ tr.2.1
  | _ => True

structure ShieldT (cfg : Cfg) (s : State) (p : Sid) (c : TT) (m : Nat) (T : Taint) : Prop where
  cur : ∀ ad ∈ (cfg.sim p).trigAnc, ad.1 ≠ p → ∀ x, (s.sims ad.1).cur = some x →
    m < TT.time (TI.act x ad.2) ∨ (ad.1, x) ∈ T
  next : ∀ ad ∈ (cfg.sim p).trigAnc, ad.1 ≠ p → ∀ x ∈ (s.sims ad.1).next,
    m < TT.time (TI.act x ad.2) ∨ (ad.1, x) ∈ T
  own : ∀ x ∈ (s.sims p).next, m < TT.time x ∨ (p, x) ∈ T
  pcur : ∀ x, (s.sims p).cur = some x → x = c ∨ m < TT.time x ∨ (p, x) ∈ T

theorem ShieldT.of_shield {cfg : Cfg} {s : State} {p : Sid} {c : TT} {m : Nat} (h : Shield cfg s p c m) : ShieldT cfg s p c m [] :=
  ⟨fun ad had hne x hx => Or.inl (h.cur ad had hne x hx), fun ad had hne x hx => Or.inl (h.next ad had hne x hx),
   fun x hx => Or.inl (h.own x hx), fun x hx => (h.pcur x hx).elim Or.inl (fun h => Or.inr (Or.inl h))⟩

theorem shieldT_step {cfg : Cfg} (hw : WFCfg cfg) {s s' : State} {a : Action} {p : Sid} (hp : p < cfg.n) {c : TT} {m : Nat}
    {T : Taint} (hs : ShieldT cfg s p c m T) (h : step cfg s a = some s') :
    ShieldT cfg s' p c m (taintStep cfg p T s a) := by
  have mono := taintStep_mono cfg p T s a
  -- A trigger delivered to `b` is traceable, or sent by a step `cq` of some `q ≠ p` that is not traceable: that step is shielded,
  -- and so is every `y` that `q`'s entry in the ancestor table of `p` bounds (`hbound`: `trigger_le_trans`, `trigger_le_direct`).
  have trigCase : ∀ b x, TrigSrc cfg s a b x → ∀ y : TT,
      (∀ q tr (cq outT : TT), q < cfg.n → tr ∈ (cfg.sim q).triggers → tr.2.1 = b → x = TI.act outT tr.2.2 → cq ≤ outT →
        ∃ d', (q, d') ∈ (cfg.sim p).trigAnc ∧ TI.act cq d' ≤ y) →
      m < TT.time y ∨ (b, x) ∈ taintStep cfg p T s a := by
    rintro b x ⟨q, cq, tr, data, outT, hqn, hcur, htr, hb, hhas, hx, hsrc⟩ y hbound
    rcases hsrc with ⟨d, ha, hd, ho, hot⟩ | ⟨r, _, hempty, _, _⟩
    · by_cases htaint : q = p ∨ (q, cq) ∈ T
      · right
        rw [ha, ← hb, hx, ho]
        exact taintStep_trigger hcur htaint d htr (by rw [← hd]; exact hhas)
      · obtain ⟨d', hd', hle⟩ := hbound q tr cq outT hqn htr hb hx (by rw [ho]; exact le_outTimeOf cq d hot)
        have h1 := (hs.cur (q, d') hd' (fun e => htaint (Or.inl e)) cq hcur).resolve_right fun e => htaint (Or.inr e)
        exact Or.inl (Nat.lt_of_lt_of_le h1 (TT.time_mono hle))
    · rw [hw.trigReq q hqn hempty] at htr; cases htr
  have noEvent : ∀ b, ¬ (∃ t, a = .setEvent b t ∧ cfg.rt.isSome) := by
    rintro b ⟨t, _, hrt⟩; rw [hw.noRt] at hrt; cases hrt
  refine ⟨fun ad had hne x hx => ?_, fun ad had hne x hx => ?_, fun x hx => ?_, fun x hx => ?_⟩
  · rcases step_cur_sources h ad.1 x hx with h1 | h1
    · exact (hs.cur ad had hne x h1).imp id (mono _)
    · exact (hs.next ad had hne x (List.mem_of_mem_head? h1)).imp id (mono _)
  · rcases step_sources h ad.1 x hx with h1 | ⟨n, cb, ha, hcur, hlt, _, hxe⟩ | h3 | h4
    · exact (hs.next ad had hne x h1).imp id (mono _)
    · -- the ancestor's own returned next step lies after its step in flight
      rcases hs.cur ad had hne cb hcur with h1 | h1
      · left
        have hct : cb < x := hxe ▸ lt_ofWorld (hw.depth _ (hw.ancRange p hp ad had)) hlt
        exact Nat.lt_of_lt_of_le h1 (TT.time_mono (TI.act_mono_left ad.2 (TT.le_of_lt hct)))
      · right
        rw [ha, hxe]
        exact taintStep_self hcur (Or.inr h1) n
    · refine trigCase ad.1 x h3 (TI.act x ad.2) fun q tr cq outT hqn htr hb hxe hle => ?_
      rw [hxe]
      exact trigger_le_trans hw hqn htr hp had hb.symm hle
    · exact absurd h4 (noEvent _)
  · rcases step_sources h p x hx with h1 | ⟨n, cb, ha, hcur, _, _, hxe⟩ | h3 | h4
    · exact (hs.own x h1).imp id (mono _)
    · right
      rw [ha, hxe]
      exact taintStep_self hcur (Or.inl rfl) n
    · refine trigCase p x h3 x fun q tr cq outT hqn htr hb hxe hle => ?_
      rw [← hb, hxe]
      exact trigger_le_direct hw hqn htr hle
    · exact absurd h4 (noEvent _)
  · rcases step_cur_sources h p x hx with h1 | h1
    · exact (hs.pcur x h1).imp_right fun h2 => h2.imp_right (mono _)
    · exact Or.inr ((hs.own x (List.mem_of_mem_head? h1)).imp id (mono _))

theorem shieldT_exec {cfg : Cfg} (hw : WFCfg cfg) {p : Sid} (hp : p < cfg.n) {c : TT} {m : Nat} :
    ∀ (as : List Action) {s s' : State} {T : Taint}, ShieldT cfg s p c m T → exec cfg s as = some s' →
      ShieldT cfg s' p c m (taintRun cfg p T s as) := by
  intro as s s' T hs he
  refine exec_ind (P := fun s as s' => ∀ T, ShieldT cfg s p c m T → ShieldT cfg s' p c m (taintRun cfg p T s as))
    (fun _ _ hs => hs) ?_ as he T hs
  intro s s1 s' a as hst _ ih T hs
  rw [taintRun, hst]
  exact ih _ (shieldT_step hw hp hs hst)

theorem quiet_taint {cfg : Cfg} (hw : WFCfg cfg) {s : State} {a : Action} {p : Sid} (hp : p < cfg.n) {m : Nat}
    (hq : Quiet cfg p m a) {b : Sid} {x : TT} (hx : (b, x) ∈ taintStep cfg p [] s a) :
    (b = p ∧ m < TT.time x) ∨ (b ≠ p ∧ ∀ ad ∈ (cfg.sim p).trigAnc, ad.1 ≠ p → ad.1 ≠ b) := by
  unfold taintStep at hx
  cases a with
  | stepReply q r =>
    simp only [List.not_mem_nil, or_false, List.append_nil] at hx
    split at hx
    · cases hx
    · by_cases hqp : q = p
      · rw [if_pos hqp] at hx
        subst hqp
        rcases List.mem_append.mp hx with h1 | h1
        · cases r with
          | int n =>
            cases List.mem_singleton.mp h1
            exact Or.inl ⟨rfl, by rw [time_ofWorld (hw.depth _ hp)]; exact Int.lt_toNat.mpr (hq rfl n rfl)⟩
          | none => cases h1
          | bad => cases h1
        · by_cases hempty : (cfg.sim q).outReq.isEmpty = true
          · rw [if_pos hempty, hw.trigReq _ hp hempty] at h1
            cases h1
          · rw [if_neg hempty] at h1
            cases h1
      · rw [if_neg hqp] at hx
        cases hx
  | dataReply q d =>
    simp only [List.not_mem_nil, or_false, List.append_nil] at hx
    split at hx
    · cases hx
    · by_cases hqp : q = p
      · rw [if_pos hqp] at hx
        subst hqp
        obtain ⟨tr, htr, he⟩ := List.mem_map.mp hx
        cases he
        obtain ⟨htr, hhas⟩ := List.mem_filter.mp htr
        exact Or.inr (hq rfl tr htr hhas)
      · rw [if_neg hqp] at hx
        cases hx
  | _ => cases hx

theorem shield_step {cfg : Cfg} (hw : WFCfg cfg) {s s' : State} {a : Action} {p : Sid} (hp : p < cfg.n) {c : TT} {m : Nat}
    (hs : Shield cfg s p c m) (hq : Quiet cfg p m a) (h : step cfg s a = some s') : Shield cfg s' p c m := by
  have ht := shieldT_step hw hp (ShieldT.of_shield hs) h
  have own : ∀ x, (p, x) ∈ taintStep cfg p [] s a → m < TT.time x := fun x hx =>
    (quiet_taint hw hp hq hx).elim (fun h => h.2) (fun h => absurd rfl h.1)
  have anc : ∀ ad ∈ (cfg.sim p).trigAnc, ad.1 ≠ p → ∀ x, (ad.1, x) ∉ taintStep cfg p [] s a := fun ad had hne x hx =>
    (quiet_taint hw hp hq hx).elim (fun h => hne h.1) (fun h => h.2 ad had hne rfl)
  exact ⟨fun ad had hne x hx => (ht.cur ad had hne x hx).resolve_right (anc ad had hne x),
    fun ad had hne x hx => (ht.next ad had hne x hx).resolve_right (anc ad had hne x),
    fun x hx => (ht.own x hx).elim id (own x),
    fun x hx => (ht.pcur x hx).imp_right fun h => h.elim id (own x)⟩

theorem shield_exec {cfg : Cfg} (hw : WFCfg cfg) {p : Sid} (hp : p < cfg.n) {c : TT} {m : Nat} :
    ∀ (as : List Action) {s s' : State}, Shield cfg s p c m → (∀ a ∈ as, Quiet cfg p m a) → exec cfg s as = some s' →
      Shield cfg s' p c m :=
  fun as _ _ hs hq he =>
    exec_ind (P := fun s as s' => Shield cfg s p c m → (∀ a ∈ as, Quiet cfg p m a) → Shield cfg s' p c m) (fun _ hs _ => hs)
      (fun hst _ ih hs hq => ih (shield_step hw hp hs (hq _ List.mem_cons_self) hst) fun b hb => hq b (List.mem_cons_of_mem _ hb))
      as he hs hq

end Mosaik
