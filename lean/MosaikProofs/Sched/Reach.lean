/-
What one action does from a state satisfying the invariants (`step_spec`): it keeps them, it either only raises
progress or begins the awaited step, and if it fails the failure has an external cause.  `good_step`, `later_or_begins`
and `step_err` are its three parts (`step_frame` is `later_or_begins` with `Begins` and `Ready` written out as one
conjunction); hence the invariants hold in every reachable state (`reach_good`).
-/
import MosaikProofs.Sched.Inv
namespace Mosaik

/-- reachable states: any sequence of enabled actions from the initial state -/
inductive Reach (cfg : Cfg) : State → Prop where
  | init : Reach cfg (initState cfg)
  | step {s s' : State} {a : Action} : Reach cfg s → step cfg s a = some s' → Reach cfg s'

theorem good_init {cfg : Cfg} (hw : WFCfg cfg) : Good cfg (initState cfg) := by
  intro _
  constructor
  · intro p hp
    obtain ⟨hs, hz⟩ := hw.next0Ok p hp
    refine {
      le_end := zero_le_of_length_le _ _ (by simp [Cfg.endT, ofWorld_length])
      le_next := hz
      begun_sorted := List.Pairwise.nil
      sorted := hs
      anc := fun ad had f _ => zero_le_of_length_le _ _ (by simpa using hw.ancShape p hp ad had)
      cur_eq := ?_, cur_begun := ?_, begun_lt_next := ?_, begun_le := ?_, inputs := ?_ }
    -- these speak of the step in flight or of a step begun, and there is none (`cur = none`, `begun = []`)
    all_goals exact fun _ h => nomatch h
  · intro p _
    exact {
      inflight := by rintro (h | h) <;> cases h
      idle := fun _ => rfl
      waiting := fun t ht => nomatch ht }

/-- the cause of each error -/
def Cause (cfg : Cfg) (s : State) (a : Action) : SchedErr → Prop
  | .loop p => a = .deps p ∧ ∃ c, (s.sims p).pc = .waitDeps c ∧ (c.tail.any fun k => decide (k ≥ cfg.maxLoop)) = true
  | .badReply p .notInt => a = .stepReply p .bad
  | .badReply p .notLater => ∃ n c, a = .stepReply p (.int n) ∧ (s.sims p).cur = some c ∧ n ≤ (TT.time c : Int)
  | .badReply p .noNextStep => a = .stepReply p .none ∧ (cfg.sim p).ty = .timeBased
  | .badReply p .outputTimeEarly => ∃ d c, a = .dataReply p d ∧ (s.sims p).cur = some c ∧ (outTimeOf c d).1 < (TT.time c : Int)
  | .asyncRefused p => ∃ target, (a = .getDataReq p target ∨ ∃ es, a = .setData p target es) ∧ asyncAllowed cfg p target = false
  | .eventNotRt p => ∃ t, a = .setEvent p t ∧ cfg.rt = none
  | .progressBackwards _ => False
  | .stepInPast _ => False
  | .rtTooSlow _ => False

/-- `p` waits for its dependencies with the step `c`, and `c` can begin -/
structure Ready (cfg : Cfg) (s : State) (p : Sid) (c : TT) : Prop where
  pc : (s.sims p).pc = .waitDeps c
  deps : depsReady cfg s p c = true
  progress : (s.sims p).progress = c
  head : (s.sims p).next.head? = some c
  time : TT.time c < cfg.until_
  noLoop : (c.tail.any fun k => decide (k ≥ cfg.maxLoop)) = false

/-- the action is `deps p`, which begins the awaited step `c` of `p` and changes nothing else the invariants see -/
structure BeginsStep (cfg : Cfg) (s : State) (a : Action) (s' : State) (p : Sid) (c : TT) : Prop where
  action : a = .deps p
  lt : p < cfg.n
  ready : Ready cfg s p c
  progress : ∀ q, (s'.sims q).progress = (s.sims q).progress
  begun : (s'.sims p).begun = c :: (s.sims p).begun
  cur : (s'.sims p).cur = some c
  others : ∀ q, q ≠ p → (s'.sims q).begun = (s.sims q).begun

def Begins (cfg : Cfg) (s : State) (a : Action) (s' : State) : Prop := ∃ p c, BeginsStep cfg s a s' p c

/-- what `step_spec` says of an action from `s` to `s'` -/
def Spec (cfg : Cfg) (s : State) (a : Action) (s' : State) : Prop :=
  Good cfg s' ∧ (s'.failed = none → Later s s' ∨ Begins cfg s a s') ∧ ∀ e, s'.failed = some e → Cause cfg s a e

theorem Spec.ok {cfg : Cfg} {s s' : State} {a : Action} (hf : s'.failed = none) (hc : Core cfg s') (hp : Pcs cfg s')
    (hl : Later s s' ∨ Begins cfg s a s') : Spec cfg s a s' :=
  ⟨fun _ => ⟨hc, hp⟩, fun _ => hl, fun e he => by rw [hf] at he; cases he⟩

theorem Spec.fail {cfg : Cfg} {s s0 : State} {a : Action} (hf : s.failed = none) {e : SchedErr}
    (hcause : Cause cfg s a e) (h0 : s0.failed = s.failed := by rfl) : Spec cfg s a (s0.fail e) :=
  ⟨fun h => absurd h (State.fail_ne_none _ _), fun h => absurd h (State.fail_ne_none _ _),
   fun e' he => by rw [State.fail_eq _ _ (h0.trans hf)] at he; cases he; exact hcause⟩

theorem ctrlEq_failed_upd (s : State) (p : Sid) (f : SimSt → SimSt) : (s.upd p f).failed = s.failed := rfl

theorem afterStep_later (cfg : Cfg) (s : State) (p : Sid) (c : TT) : Later s (afterStep cfg s p c) := by
  have h1 : Later s (rtCheck cfg s p c) := .of_sims fun q => by rw [rtCheck_sims]; exact ⟨rfl, rfl⟩
  rcases afterStep_cases cfg s p c with ⟨_, e⟩ | ⟨_, _, e⟩ | ⟨_, e⟩ <;> rw [e]
  · exact h1
  · exact h1.trans (finish_later cfg _ p c)
  · exact h1.trans (.of_sims fun q =>
      ⟨State.upd_keeps SimSt.progress _ p q fun _ => rfl, State.upd_keeps SimSt.begun _ p q fun _ => rfl⟩)

theorem afterStep_good {cfg : Cfg} (hw : WFCfg cfg) {s : State} {p : Sid} (hp : p < cfg.n) {c : TT}
    (hf : s.failed = none) (hc : Core cfg s) (hpcs : Pcs cfg s) (hcur : (s.sims p).cur = some c) :
    (afterStep cfg s p c).failed = none ∧ Core cfg (afterStep cfg s p c) ∧ Pcs cfg (afterStep cfg s p c) := by
  unfold afterStep
  simp only [rtCheck_of_noRt hw.noRt]
  rw [if_neg (by rw [hf]; simp)]
  split
  · rename_i hempty
    exact finish_good hw hp hf hc (hpcs.but p) hcur (Or.inl (hw.trigReq p hp hempty))
  · have hfld := fun q => State.upd_keeps SimSt.core s p q (f := fun x => { x with pc := .inGet }) fun _ => rfl
    refine ⟨hf, Core.congr hfld hc, fun q hq => ?_⟩
    by_cases hqp : q = p
    · subst hqp
      exact {
        inflight := fun _ => ⟨c, by rw [core_cur (hfld q)]; exact hcur⟩
        idle := fun hn => absurd (Or.inr (by rw [State.upd_same])) hn
        waiting := fun t ht => by rw [State.upd_same] at ht; cases ht }
    · exact PcsBut.congr hfld (fun q hq => by rw [State.upd_other _ _ hq]) (hpcs.but p) q hq hqp

theorem lt_ofWorld {c : TT} {depth : Nat} (hd : 0 < depth) {n : Int} (h : (TT.time c : Int) < n) : c < ofWorld depth n.toNat :=
  TT.lt_of_time_lt (by rw [time_ofWorld hd]; exact Int.lt_toNat.mpr h)

/-- the simulator's own next step lies after the running one: it may be scheduled -/
theorem replied_good {cfg : Cfg} (hw : WFCfg cfg) {s : State} {p : Sid} (hp : p < cfg.n) {c : TT} {r : StepReply}
    (hc : Core cfg s) (hpcs : Pcs cfg s) (hcur : (s.sims p).cur = some c) (hv : validReply cfg p c r) :
    Core cfg (replied cfg s p c r) ∧ Pcs cfg (replied cfg s p c r) := by
  have hce : CtrlEq s (stepped s p c) := fun q => by rw [stepped_sims]; rfl
  have hc1 := hce.core hc
  have hp1 := hce.pcs hpcs
  rcases replied_cases cfg s p c r with e | ⟨n, rfl, _, e⟩ <;> rw [e]
  · exact ⟨hc1, hp1⟩
  · have hct : c < ofWorld (cfg.sim p).depth n.toNat := lt_ofWorld (hw.depth p hp) hv
    have hcur1 : ((stepped s p c).sims p).cur = some c := by rw [stepped_sims]; exact hcur
    have hprog1 := (hc1 p hp).cur_eq c hcur1
    obtain ⟨g1, g2⟩ := schedule_good hc1 (hp1.but cfg.n) p (ofWorld (cfg.sim p).depth n.toNat)
      (by rw [hprog1]; exact TT.le_of_lt hct)
      (fun bb hbb => TT.lt_of_le_of_lt (hprog1 ▸ (hc1 p hp).begun_le bb hbb) hct)
      (fun q hq ad had hap => TT.le_trans ((hc1 q hq).anc ad had c (by rw [hap]; exact front_cur hcur1))
        (TI.act_mono_left _ (TT.le_of_lt hct)))
    exact ⟨g1, g2.all⟩

theorem step_spec {cfg : Cfg} (hw : WFCfg cfg) {s s' : State} {a : Action} (hg : Good cfg s)
    (h : step cfg s a = some s') : Spec cfg s a s' := by
  have hrt : cfg.rt.isSome = false := by rw [hw.noRt]; rfl
  cases step_fires h with
  | start p hf hp hpc =>
    obtain ⟨hc, hpcs⟩ := hg hf
    obtain ⟨g1, g2, g3⟩ := advance_good hw hf hc (hpcs.but cfg.n) hp
    rw [settled_eq _ p g1]
    obtain ⟨e1, e2⟩ := settle_good g2 (g3.all.but p) (by rw [advance_sims]; exact (hpcs p hp).idle (by rw [hpc]; simp))
    exact .ok (by rw [settle_failed]; exact g1) e1 e2 (Or.inl ((advance_later cfg s p).trans (settle_later cfg _ p)))
  | wake p _ _ hf hp hpc =>
    obtain ⟨hc, hpcs⟩ := hg hf
    rw [woken_of_noRt hw.noRt, settled_eq (s.upd p _) p hf]
    have hce := ctrlEq_upd s p (fun x => { x with newer := false }) fun _ => rfl
    obtain ⟨e1, e2⟩ := settle_good (hce.core hc) (hce.pcsBut (hpcs.but p))
      (by rw [hce.cur p]; exact (hpcs p hp).idle (by rw [hpc]; simp))
    exact .ok (by rw [settle_failed]; exact hf) e1 e2 (Or.inl (hce.later.trans (settle_later cfg _ p)))
  | deps p t c rest hf hp hpc hready hnext =>
    obtain ⟨hc, hpcs⟩ := hg hf
    obtain ⟨hhead, hprog, htime⟩ := (hpcs p hp).waiting t hpc
    have hct : c = t := by rw [hnext] at hhead; exact Option.some.inj hhead
    subst hct
    rcases beginStep_cases cfg s p c rest with ⟨_, ⟨hne, _⟩ | ⟨_, hloop, rfl⟩, e⟩ | ⟨_, hloop, e⟩
    · exact absurd hprog.symm hne
    · rw [e]; exact .fail (e := .loop p) hf ⟨rfl, c, hpc, hloop⟩
    · have hother : ∀ q, q ≠ p → (begunState cfg s p c rest).sims q = s.sims q := fun q hq =>
        begunState_other cfg s p c rest hq
      have hself := begunState_same cfg s p c rest
      rw [e]
      obtain ⟨g1, g2⟩ := begin_good hp hc hpcs hpc hnext (depsReady_iff.mp hready).1
      refine .ok (by unfold begunState; exact hf) g1 g2 (Or.inr ⟨p, c, ?_⟩)
      exact {
        action := rfl
        lt := hp
        ready := { pc := hpc, deps := hready, progress := hprog, head := hhead, time := htime, noLoop := hloop }
        progress := fun q => by
          by_cases hq : q = p
          · subst hq; rw [hself]
          · rw [hother q hq]
        begun := by rw [hself]
        cur := by rw [hself]
        others := fun q hq => by rw [hother q hq] }
  | setDataRefused p target entries hf _ _ hno => exact .fail (e := .asyncRefused p) hf ⟨target, Or.inr ⟨entries, rfl⟩, hno⟩
  | setData p target entries hf hp hpc hok =>
    obtain ⟨hc, hpcs⟩ := hg hf
    have hce := ctrlEq_upd s target (fun x => { x with setData := entries.foldl (fun acc e => InputData.set acc e.1 e.2) x.setData })
      (fun _ => rfl)
    exact .ok hf (hce.core hc) (hce.pcs hpcs) (Or.inl hce.later)
  | getDataRefused p target hf _ _ hno => exact .fail (e := .asyncRefused p) hf ⟨target, Or.inl rfl, hno⟩
  | getData _ _ hf _ _ _ => obtain ⟨hc, hpcs⟩ := hg hf; exact .ok hf hc hpcs (Or.inl (Later.refl s))
  | eventNotRt p t hf _ hrt' => exact .fail (e := .eventNotRt p) hf ⟨t, rfl, hrt'⟩
  | setEvent _ _ _ _ hrt' => rw [hrt] at hrt'; cases hrt'
  | eventIgnored _ _ _ _ hrt' => rw [hrt] at hrt'; cases hrt'
  | stepReply p r c hf hp hpc hcur =>
    obtain ⟨hc, hpcs⟩ := hg hf
    rcases processStepReply_cases cfg s p c r with ⟨k, hk, e⟩ | ⟨hv, e⟩
    · rw [e]
      refine .fail (e := .badReply p k) hf ?_
      cases r with
      | bad => cases hk; exact rfl
      | none => obtain ⟨h1, rfl⟩ := hk; exact ⟨rfl, h1⟩
      | int n => obtain ⟨h1, rfl⟩ := hk; exact ⟨n, c, rfl, hcur, h1⟩
    · obtain ⟨g1, g2⟩ := replied_good hw hp hc hpcs hcur hv
      obtain ⟨e1, e2, e3⟩ := afterStep_good hw hp (by rw [replied_state]; exact hf) g1 g2
        (c := c) (by rw [replied_sims]; exact hcur)
      rw [e]
      exact .ok e1 e2 e3 (Or.inl (Later.trans (.of_sims fun q => by rw [replied_sims]; exact ⟨rfl, rfl⟩)
        (afterStep_later cfg _ p c)))
  | dataReply p d c hf hp hpc hcur =>
    obtain ⟨hc, hpcs⟩ := hg hf
    rcases processDataReply_cases cfg s p c d with ⟨hot, e⟩ | ⟨hot, e⟩
    · rw [e]; exact .fail (e := .badReply p .outputTimeEarly) hf ⟨d, c, rfl, hcur, hot⟩
    · have hce : CtrlEq s (storeOutputs cfg (gotReply s p c d) p (outTimeOf c d).1 d) := fun q => by
        rw [storeOutputs_sims, gotReply_sims]
        rfl
      obtain ⟨e1, e2, e3⟩ := finish_good hw hp (by rw [storeOutputs_state]; exact hf) (hce.core hc) (hce.pcsBut (hpcs.but p))
        (by rw [hce.cur p]; exact hcur)
        (Or.inr (by rw [storeOutputs_sims]; simp only [gotReply, State.emit_sims, State.upd_same]; exact le_outTimeOf c d hot))
      rw [e]
      exact .ok e1 e2 e3 (Or.inl (hce.later.trans (finish_later cfg _ p c)))
  | tick _ _ hrt' => rw [hrt] at hrt'; cases hrt'

theorem good_step {cfg : Cfg} (hw : WFCfg cfg) {s s' : State} {a : Action} (hg : Good cfg s)
    (h : step cfg s a = some s') : Good cfg s' :=
  (step_spec hw hg h).1

theorem reach_good {cfg : Cfg} (hw : WFCfg cfg) {s : State} (hr : Reach cfg s) : Good cfg s := by
  induction hr with
  | init => exact good_init hw
  | step _ hstep ih => exact good_step hw ih hstep

theorem later_or_begins {cfg : Cfg} (hw : WFCfg cfg) {s s' : State} {a : Action} (hg : Good cfg s)
    (h : step cfg s a = some s') (hnf : s'.failed = none) : Later s s' ∨ Begins cfg s a s' :=
  (step_spec hw hg h).2.1 hnf

theorem step_frame {cfg : Cfg} (hw : WFCfg cfg) {s s' : State} {a : Action} (hg : Good cfg s)
    (h : step cfg s a = some s') (hnf : s'.failed = none) :
    Later s s' ∨
    (∃ p c, a = .deps p ∧ p < cfg.n ∧ (s.sims p).pc = .waitDeps c ∧ depsReady cfg s p c = true ∧
      (s.sims p).progress = c ∧ (s.sims p).next.head? = some c ∧ TT.time c < cfg.until_ ∧
      (c.tail.any fun k => decide (k ≥ cfg.maxLoop)) = false ∧
      (∀ q, (s'.sims q).progress = (s.sims q).progress) ∧
      (s'.sims p).begun = c :: (s.sims p).begun ∧ (s'.sims p).cur = some c ∧
      (∀ q, q ≠ p → (s'.sims q).begun = (s.sims q).begun)) :=
  (later_or_begins hw hg h hnf).imp id fun ⟨p, c, hb⟩ =>
    ⟨p, c, hb.action, hb.lt, hb.ready.pc, hb.ready.deps, hb.ready.progress, hb.ready.head, hb.ready.time, hb.ready.noLoop,
      hb.progress, hb.begun, hb.cur, hb.others⟩

theorem deps_begins {cfg : Cfg} (hw : WFCfg cfg) {s s' : State} {p : Sid} (hg : Good cfg s)
    (h : step cfg s (.deps p) = some s') (hnf : s'.failed = none) :
    ∃ c, Ready cfg s p c ∧ (s'.sims p).begun = c :: (s.sims p).begun ∧ (s'.sims p).cur = some c := by
  rcases later_or_begins hw hg h hnf with hl | ⟨_, c, hb⟩
  · cases step_fires h with
    | deps _ t c rest =>
      have hb := hl.begun p
      rw [(beginStep_nf hnf).2.2, begunState_same] at hb
      exact absurd hb (List.cons_ne_self _ _)
  · cases hb.action
    exact ⟨c, hb.ready, hb.begun, hb.cur⟩

theorem step_err {cfg : Cfg} (hw : WFCfg cfg) {s s' : State} {a : Action} (hg : Good cfg s)
    (h : step cfg s a = some s') (e : SchedErr) (he : s'.failed = some e) : Cause cfg s a e :=
  (step_spec hw hg h).2.2 e he

end Mosaik
