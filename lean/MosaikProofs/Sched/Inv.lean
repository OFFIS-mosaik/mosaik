/-
Invariants of the scheduler transition system (non-real-time mode), for every reachable state
under every order of enabled actions and every simulator behaviour.

`WFCfg` collects what the scheduler needs from the configuration: the closure properties of the
triggering-ancestor table (`cache_triggering_ancestors`) and the relation between trigger and
input delays (`connect_one`).  They are checked on every generated scenario by the driver
(`Cfg.wfB`), and delivered by the closure theorems.

This file: the invariants, and for each block of `Sched/Blocks.lean` that writes a control field what it needs to keep
them (`raise_good`, `schedule_good`, `clearCur_good`, `settle_good`, `begin_good`) up to the block that ends a step
(`finish_good`).  `Sched/Reach.lean` puts the blocks together.
-/
import MosaikProofs.Sched.Blocks
namespace Mosaik

structure WFCfg (cfg : Cfg) : Prop where
  noRt : cfg.rt = none
  depth : ∀ p, p < cfg.n → 0 < (cfg.sim p).depth
  trigTarget : ∀ x, x < cfg.n → ∀ tr ∈ (cfg.sim x).triggers, tr.2.1 < cfg.n
  ancRange : ∀ q, q < cfg.n → ∀ ad ∈ (cfg.sim q).trigAnc, ad.1 < cfg.n
  /-- a direct trigger connection is covered by the ancestor table -/
  direct : ∀ x, x < cfg.n → ∀ tr ∈ (cfg.sim x).triggers,
    ∃ d', (x, d') ∈ (cfg.sim tr.2.1).trigAnc ∧ TI.le d' tr.2.2
  /-- the ancestor table is closed under prefixing a trigger connection -/
  trans : ∀ x, x < cfg.n → ∀ tr ∈ (cfg.sim x).triggers, ∀ q, q < cfg.n → ∀ bd ∈ (cfg.sim q).trigAnc,
    bd.1 = tr.2.1 →
      (∃ d', (x, d') ∈ (cfg.sim q).trigAnc ∧ TI.le d' (TI.add tr.2.2 bd.2)) ∧ bd.2.cutoff ≤ tr.2.2.tiers.length
  /-- every trigger connection is an input connection, whose minimal delay is not larger -/
  trigInput : ∀ x, x < cfg.n → ∀ tr ∈ (cfg.sim x).triggers,
    ∃ d0, (x, d0) ∈ (cfg.sim tr.2.1).inputDelays ∧ TI.le d0 tr.2.2
  /-- delays in the ancestor table have the length of the descendant's times -/
  ancShape : ∀ q, q < cfg.n → ∀ ad ∈ (cfg.sim q).trigAnc, (cfg.sim q).depth ≤ ad.2.tiers.length
  /-- the initial schedule (in mosaik at most the time-zero step or one initial event) is sorted and not before time zero -/
  next0Ok : ∀ p, p < cfg.n → SortedTT (cfg.sim p).next0 ∧ ∀ t ∈ (cfg.sim p).next0, TT.zero (cfg.sim p).depth ≤ t
  /-- a simulator whose outputs nobody requested triggers nobody -/
  trigReq : ∀ x, x < cfg.n → (cfg.sim x).outReq.isEmpty = true → (cfg.sim x).triggers = []

/-- control invariants of one simulator (J1–J5 and the facts about `begun` of DESIGN.md, Appendix A) -/
structure SimOk (cfg : Cfg) (s : State) (p : Sid) : Prop where
  le_end : (s.sims p).progress ≤ cfg.endT p
  le_next : ∀ t ∈ (s.sims p).next, (s.sims p).progress ≤ t
  cur_eq : ∀ c, (s.sims p).cur = some c → (s.sims p).progress = c
  cur_begun : ∀ c, (s.sims p).cur = some c → c ∈ (s.sims p).begun
  begun_lt_next : ∀ b ∈ (s.sims p).begun, ∀ t ∈ (s.sims p).next, b < t
  begun_le : ∀ b ∈ (s.sims p).begun, b ≤ (s.sims p).progress
  begun_sorted : (s.sims p).begun.Pairwise (fun a b => b < a)
  sorted : SortedTT (s.sims p).next
  /-- J4: progress never exceeds what a triggering ancestor's earliest unfinished step can cause -/
  anc : ∀ ad ∈ (cfg.sim p).trigAnc, ∀ f, front (s.sims ad.1) = some f → (s.sims p).progress ≤ TI.act f ad.2
  /-- J5: every step begun had all its input providers past it -/
  inputs : ∀ b ∈ (s.sims p).begun, ∀ qd ∈ (cfg.sim p).inputDelays, b < TI.act (s.sims qd.1).progress qd.2

/-- consistency of the program counter with the control state -/
structure PcOk (cfg : Cfg) (s : State) (p : Sid) : Prop where
  inflight : ((s.sims p).pc = .inStep ∨ (s.sims p).pc = .inGet) → ∃ c, (s.sims p).cur = some c
  idle : ¬ ((s.sims p).pc = .inStep ∨ (s.sims p).pc = .inGet) → (s.sims p).cur = none
  waiting : ∀ t, (s.sims p).pc = .waitDeps t →
    (s.sims p).next.head? = some t ∧ (s.sims p).progress = t ∧ TT.time t < cfg.until_

def Core (cfg : Cfg) (s : State) : Prop := ∀ p, p < cfg.n → SimOk cfg s p
def Pcs (cfg : Cfg) (s : State) : Prop := ∀ p, p < cfg.n → PcOk cfg s p

/-- the invariant: in every state that has not failed, all simulators are consistent -/
def Good (cfg : Cfg) (s : State) : Prop := s.failed = none → Core cfg s ∧ Pcs cfg s

/-- `PcOk` of everyone but `p`: while the block that ends a step of `p` runs, `p` has no current step although its
program counter still says so.  (`PcsBut cfg s cfg.n` is `Pcs cfg s`.) -/
def PcsBut (cfg : Cfg) (s : State) (p : Sid) : Prop := ∀ q, q < cfg.n → q ≠ p → PcOk cfg s q

theorem Pcs.but {cfg : Cfg} {s : State} (h : Pcs cfg s) (p : Sid) : PcsBut cfg s p := fun q hq _ => h q hq
theorem PcsBut.all {cfg : Cfg} {s : State} (h : PcsBut cfg s cfg.n) : Pcs cfg s := fun q hq => h q hq (Nat.ne_of_lt hq)

/-- the fields the invariants talk about -/
def SimSt.ctrl (x : SimSt) : PC × TT × List TT × Option TT × List TT := (x.pc, x.progress, x.next, x.cur, x.begun)

/-- `s'` differs from `s` only in data-flow fields / log / clock -/
def CtrlEq (s s' : State) : Prop := ∀ q, (s'.sims q).ctrl = (s.sims q).ctrl

theorem CtrlEq.fields {s s' : State} (h : CtrlEq s s') (q : Sid) :
    (s'.sims q).pc = (s.sims q).pc ∧ (s'.sims q).progress = (s.sims q).progress ∧ (s'.sims q).next = (s.sims q).next ∧
    (s'.sims q).cur = (s.sims q).cur ∧ (s'.sims q).begun = (s.sims q).begun := by
  have := h q
  simp only [SimSt.ctrl, Prod.mk.injEq] at this
  exact this

theorem CtrlEq.pc {s s' : State} (h : CtrlEq s s') (q : Sid) : (s'.sims q).pc = (s.sims q).pc := (h.fields q).1
theorem CtrlEq.progress {s s' : State} (h : CtrlEq s s') (q : Sid) : (s'.sims q).progress = (s.sims q).progress := (h.fields q).2.1
theorem CtrlEq.cur {s s' : State} (h : CtrlEq s s') (q : Sid) : (s'.sims q).cur = (s.sims q).cur := (h.fields q).2.2.2.1
theorem CtrlEq.begun {s s' : State} (h : CtrlEq s s') (q : Sid) : (s'.sims q).begun = (s.sims q).begun := (h.fields q).2.2.2.2

theorem CtrlEq.refl (s : State) : CtrlEq s s := fun _ => rfl

theorem ctrlEq_upd (s : State) (p : Sid) (f : SimSt → SimSt) (hf : ∀ x, (f x).ctrl = x.ctrl) : CtrlEq s (s.upd p f) :=
  fun q => State.upd_keeps SimSt.ctrl s p q hf

theorem prune_ctrlEq (cfg : Cfg) (s : State) : CtrlEq s (prune cfg s) := fun q => by rw [prune_sims]; rfl

theorem front_congr {x y : SimSt} (hc : y.cur = x.cur) (hn : y.next = x.next) : front y = front x := by
  unfold front; rw [hc, hn]

/-- `SimOk cfg s p` is about `p`'s own control fields, the earliest unfinished step of each of its triggering ancestors
and the progress of its input providers.  It survives a change that keeps the first (the current step may end), lowers no
progress and under which the ancestors still bound `p` -/
theorem SimOk.transfer {cfg : Cfg} {s s' : State} {p : Sid} (h : SimOk cfg s p)
    (hprog : (s'.sims p).progress = (s.sims p).progress) (hnext : (s'.sims p).next = (s.sims p).next)
    (hcur : ∀ c, (s'.sims p).cur = some c → (s.sims p).cur = some c) (hbegun : (s'.sims p).begun = (s.sims p).begun)
    (hanc : ∀ ad ∈ (cfg.sim p).trigAnc, ∀ f, front (s'.sims ad.1) = some f → (s.sims p).progress ≤ TI.act f ad.2)
    (hin : ∀ q, (s.sims q).progress ≤ (s'.sims q).progress) : SimOk cfg s' p where
  le_end := hprog ▸ h.le_end
  le_next := by rw [hprog, hnext]; exact h.le_next
  cur_eq := fun c hc => hprog ▸ h.cur_eq c (hcur c hc)
  cur_begun := fun c hc => hbegun ▸ h.cur_begun c (hcur c hc)
  begun_lt_next := by rw [hnext, hbegun]; exact h.begun_lt_next
  begun_le := by rw [hprog, hbegun]; exact h.begun_le
  begun_sorted := by rw [hbegun]; exact h.begun_sorted
  sorted := by rw [hnext]; exact h.sorted
  anc := by rw [hprog]; exact hanc
  inputs := by
    rw [hbegun]
    intro b hb qd hqd
    exact TT.lt_of_lt_of_le (h.inputs b hb qd hqd) (TI.act_mono_left _ (hin qd.1))

theorem PcOk.transfer {cfg : Cfg} {s s' : State} {p : Sid} (h : PcOk cfg s p)
    (hpc : (s'.sims p).pc = (s.sims p).pc) (hcur : (s'.sims p).cur = (s.sims p).cur)
    (hwait : ∀ t, (s.sims p).pc = .waitDeps t → (s.sims p).next.head? = some t → (s.sims p).progress = t →
      (s'.sims p).next.head? = some t ∧ (s'.sims p).progress = t) : PcOk cfg s' p where
  inflight := by rw [hpc, hcur]; exact h.inflight
  idle := by rw [hpc, hcur]; exact h.idle
  waiting := by
    rw [hpc]
    intro t ht
    obtain ⟨h1, h2, h3⟩ := h.waiting t ht
    exact ⟨(hwait t ht h1 h2).1, (hwait t ht h1 h2).2, h3⟩

/-- `SimOk` after a block that leaves `p` with the state `x`; `e` is the block's footprint, `x = { s.sims p with … }`.  For each
field of `SimOk` the obligation is that the old fact gives the new one.  For a field that reads nothing the block writes the two
are the same statement once the projections of `x` are reduced, and the default proves it: a call names the fields the block
touches.  (`inputs` is asked with the providers' old progress, `hin` takes it to the new.) -/
theorem SimOk.update {cfg : Cfg} {s s' : State} {p : Sid} (h : SimOk cfg s p) {x : SimSt} (e : s'.sims p = x)
    (hanc : ∀ ad ∈ (cfg.sim p).trigAnc, ∀ f, front (s'.sims ad.1) = some f → x.progress ≤ TI.act f ad.2)
    (hin : ∀ q, (s.sims q).progress ≤ (s'.sims q).progress)
    (le_end : (s.sims p).progress ≤ cfg.endT p → x.progress ≤ cfg.endT p := by exact id)
    (le_next : (∀ t ∈ (s.sims p).next, (s.sims p).progress ≤ t) → ∀ t ∈ x.next, x.progress ≤ t := by exact id)
    (cur_eq : (∀ c, (s.sims p).cur = some c → (s.sims p).progress = c) → ∀ c, x.cur = some c → x.progress = c := by exact id)
    (cur_begun : (∀ c, (s.sims p).cur = some c → c ∈ (s.sims p).begun) → ∀ c, x.cur = some c → c ∈ x.begun := by exact id)
    (begun_lt_next : (∀ b ∈ (s.sims p).begun, ∀ t ∈ (s.sims p).next, b < t) → ∀ b ∈ x.begun, ∀ t ∈ x.next, b < t := by exact id)
    (begun_le : (∀ b ∈ (s.sims p).begun, b ≤ (s.sims p).progress) → ∀ b ∈ x.begun, b ≤ x.progress := by exact id)
    (begun_sorted : (s.sims p).begun.Pairwise (fun a b => b < a) → x.begun.Pairwise (fun a b => b < a) := by exact id)
    (sorted : SortedTT (s.sims p).next → SortedTT x.next := by exact id)
    (inputs : (∀ b ∈ (s.sims p).begun, ∀ qd ∈ (cfg.sim p).inputDelays, b < TI.act (s.sims qd.1).progress qd.2) →
      ∀ b ∈ x.begun, ∀ qd ∈ (cfg.sim p).inputDelays, b < TI.act (s.sims qd.1).progress qd.2 := by exact id) :
    SimOk cfg s' p := by
  subst e
  exact {
    le_end := le_end h.le_end
    le_next := le_next h.le_next
    cur_eq := cur_eq h.cur_eq
    cur_begun := cur_begun h.cur_begun
    begun_lt_next := begun_lt_next h.begun_lt_next
    begun_le := begun_le h.begun_le
    begun_sorted := begun_sorted h.begun_sorted
    sorted := sorted h.sorted
    anc := hanc
    inputs := fun b hb qd hqd => TT.lt_of_lt_of_le (inputs h.inputs b hb qd hqd) (TI.act_mono_left _ (hin qd.1)) }

theorem SimOk.of_same {cfg : Cfg} {s s' : State} {p : Sid} (h : SimOk cfg s p) (hsame : s'.sims p = s.sims p)
    (hanc : ∀ ad ∈ (cfg.sim p).trigAnc, ∀ f, front (s'.sims ad.1) = some f → (s.sims p).progress ≤ TI.act f ad.2)
    (hin : ∀ q, (s.sims q).progress ≤ (s'.sims q).progress) : SimOk cfg s' p :=
  h.update hsame hanc hin

theorem PcOk.of_same {cfg : Cfg} {s s' : State} {p : Sid} (h : PcOk cfg s p) (hsame : s'.sims p = s.sims p) : PcOk cfg s' p :=
  h.transfer (by rw [hsame]) (by rw [hsame]) (by rw [hsame]; exact fun t _ h1 h2 => ⟨h1, h2⟩)

/-- the fields `Core` reads -/
abbrev SimSt.core (x : SimSt) : TT × List TT × Option TT × List TT := (x.progress, x.next, x.cur, x.begun)

theorem core_progress {x y : SimSt} (h : y.core = x.core) : y.progress = x.progress := congrArg (fun c => c.1) h
theorem core_next {x y : SimSt} (h : y.core = x.core) : y.next = x.next := congrArg (fun c => c.2.1) h
theorem core_cur {x y : SimSt} (h : y.core = x.core) : y.cur = x.cur := congrArg (fun c => c.2.2.1) h
theorem core_begun {x y : SimSt} (h : y.core = x.core) : y.begun = x.begun := congrArg (fun c => c.2.2.2) h

theorem Core.congr {cfg : Cfg} {s s' : State} (h : ∀ q, (s'.sims q).core = (s.sims q).core) (hc : Core cfg s) : Core cfg s' :=
  fun q hq =>
    (hc q hq).transfer (core_progress (h q)) (core_next (h q)) (fun _ hc => core_cur (h q) ▸ hc) (core_begun (h q))
      (fun ad had f hfr => (hc q hq).anc ad had f (front_congr (core_cur (h ad.1)) (core_next (h ad.1)) ▸ hfr))
      (fun a => TT.le_of_eq (core_progress (h a)).symm)

theorem PcsBut.congr {cfg : Cfg} {s s' : State} {p : Sid} (h : ∀ q, (s'.sims q).core = (s.sims q).core)
    (hpc : ∀ q, q ≠ p → (s'.sims q).pc = (s.sims q).pc) (hpcs : PcsBut cfg s p) : PcsBut cfg s' p := fun q hq hqp =>
  (hpcs q hq hqp).transfer (hpc q hqp) (core_cur (h q)) fun t _ h1 h2 => by
    rw [core_next (h q), core_progress (h q)]
    exact ⟨h1, h2⟩

theorem CtrlEq.core {cfg : Cfg} {s s' : State} (h : CtrlEq s s') (hc : Core cfg s) : Core cfg s' :=
  Core.congr (fun q => (Prod.mk.inj (h q)).2) hc
theorem CtrlEq.pcsBut {cfg : Cfg} {s s' : State} (h : CtrlEq s s') {p : Sid} (hpcs : PcsBut cfg s p) : PcsBut cfg s' p :=
  PcsBut.congr (fun q => (Prod.mk.inj (h q)).2) (fun q _ => h.pc q) hpcs
theorem CtrlEq.pcs {cfg : Cfg} {s s' : State} (h : CtrlEq s s') (hpcs : Pcs cfg s) : Pcs cfg s' :=
  (h.pcsBut (hpcs.but cfg.n)).all

/-- `s'` is a later state than `s`: progress not lowered, begun steps the same (so with every block but the beginning of a step) -/
structure Later (s s' : State) : Prop where
  progress : ∀ q, (s.sims q).progress ≤ (s'.sims q).progress
  begun : ∀ q, (s'.sims q).begun = (s.sims q).begun

theorem Later.refl (s : State) : Later s s := ⟨fun _ => TT.le_refl _, fun _ => rfl⟩
theorem Later.trans {s s' s'' : State} (h1 : Later s s') (h2 : Later s' s'') : Later s s'' :=
  ⟨fun q => TT.le_trans (h1.progress q) (h2.progress q), fun q => (h2.begun q).trans (h1.begun q)⟩

theorem Later.of_sims {s s' : State} (h : ∀ q, (s'.sims q).progress = (s.sims q).progress ∧ (s'.sims q).begun = (s.sims q).begun) :
    Later s s' :=
  ⟨fun q => TT.le_of_eq (h q).1.symm, fun q => (h q).2⟩

theorem CtrlEq.later {s s' : State} (h : CtrlEq s s') : Later s s' :=
  Later.of_sims fun q => ⟨h.progress q, h.begun q⟩

theorem settle_later (cfg : Cfg) (s : State) (p : Sid) : Later s (settle cfg s p) :=
  Later.of_sims fun q => by
    rw [settle_sims]
    exact ⟨rfl, rfl⟩

theorem advance_later (cfg : Cfg) (s : State) (p : Sid) : Later s (advance cfg s p) :=
  ⟨advance_progress_le cfg s p, fun q => by rw [advance_sims]⟩

theorem finish_later (cfg : Cfg) (s : State) (p : Sid) (c : TT) : Later s (finish cfg s p c) := by
  refine ⟨fun q => ?_, fun q => by rw [finish_sims]⟩
  rw [finish_sims_adv]
  refine TT.le_trans (TT.le_of_eq ?_) (advanceAll_progress_le cfg _ q)
  rw [notify_sims, clearCur_sims]

theorem rtCap_nil {cfg : Cfg} (hw : WFCfg cfg) (s : State) (p : Sid) : rtCap cfg s p = [] := by
  simp [rtCap, hw.noRt]

theorem mem_candidates {cfg : Cfg} (hw : WFCfg cfg) (s : State) (q : Sid) (x : TT) :
    x ∈ candidates cfg s q ↔
      (∃ ad ∈ (cfg.sim q).trigAnc, ∃ f, front (s.sims ad.1) = some f ∧ x = TI.act f ad.2) ∨
      (s.sims q).next.head? = some x ∨ (s.sims q).cur = some x := by
  unfold candidates
  rw [rtCap_nil hw]
  simp only [List.append_nil, List.mem_append, List.mem_filterMap, Option.map_eq_some_iff, Option.mem_toList]
  constructor
  · rintro ((⟨ad, had, f, hf, rfl⟩ | h) | h)
    · exact Or.inl ⟨ad, had, f, hf, rfl⟩
    · exact Or.inr (Or.inl h)
    · exact Or.inr (Or.inr h)
  · rintro (⟨ad, had, f, hf, rfl⟩ | h | h)
    · exact Or.inl (Or.inl ⟨ad, had, f, hf, rfl⟩)
    · exact Or.inl (Or.inr h)
    · exact Or.inr h

/-- every candidate of `advance_progress` is at least the current progress: "cannot progress backwards" is unreachable -/
theorem progress_le_new {cfg : Cfg} (hw : WFCfg cfg) {s : State} {q : Sid} (hq : SimOk cfg s q) :
    (s.sims q).progress ≤ newProgress cfg s q := by
  refine le_minTT _ _ _ hq.le_end fun x hx => ?_
  rcases (mem_candidates hw s q x).mp hx with ⟨ad, had, f, hf, rfl⟩ | h | h
  · exact hq.anc ad had f hf
  · exact hq.le_next x (List.mem_of_mem_head? h)
  · exact TT.le_of_eq (hq.cur_eq x h)

theorem advance_eq {cfg : Cfg} (hw : WFCfg cfg) {s : State} {q : Sid} (hq : SimOk cfg s q) :
    advance cfg s q = s.upd q (fun x => { x with progress := newProgress cfg s q }) := by
  unfold advance
  exact if_neg (TT.not_lt.mpr (progress_le_new hw hq))

theorem raise_good {cfg : Cfg} {s : State} {k : Sid} (hc : Core cfg s) (hpcs : PcsBut cfg s k) (q : Sid) (new : TT)
    (hold : (s.sims q).progress ≤ new) (hend : new ≤ cfg.endT q)
    (hcand : ∀ ad ∈ (cfg.sim q).trigAnc, ∀ f, front (s.sims ad.1) = some f → new ≤ TI.act f ad.2)
    (hhead : ∀ t, (s.sims q).next.head? = some t → new ≤ t)
    (hcur : ∀ c, (s.sims q).cur = some c → new ≤ c) :
    Core cfg (s.upd q fun x => { x with progress := new }) ∧ PcsBut cfg (s.upd q fun x => { x with progress := new }) k := by
  generalize hs' : (s.upd q fun x => { x with progress := new }) = s'
  have hq : s'.sims q = { s.sims q with progress := new } := by rw [← hs', State.upd_same]
  have hne : ∀ a, a ≠ q → s'.sims a = s.sims a := fun a ha => by rw [← hs', State.upd_other _ _ ha]
  have hsame : ∀ a, s'.sims a = { s.sims a with progress := (s'.sims a).progress } := fun a => by
    rw [← hs', State.upd_sims]
    split <;> rfl
  have hprog : ∀ a, (s.sims a).progress ≤ (s'.sims a).progress := fun a => by
    by_cases ha : a = q
    · rw [ha, hq]; exact hold
    · rw [hne a ha]; exact TT.le_refl _
  have hfront : ∀ a, front (s'.sims a) = front (s.sims a) := fun a => front_congr (by rw [hsame]) (by rw [hsame])
  refine ⟨fun p hp => ?_, fun p hp hpk => ?_⟩
  · have hpo := hc p hp
    by_cases hpq : p = q
    · subst hpq
      have hle : ∀ t ∈ (s.sims p).next, new ≤ t := fun t ht => by
        obtain ⟨h0, hh, hle⟩ := exists_head_le_of_mem hpo.sorted ht
        exact TT.le_trans (hhead h0 hh) hle
      exact hpo.update hq (fun ad had f hf => hcand ad had f (hfront ad.1 ▸ hf)) hprog
        (le_end := fun _ => hend)
        (le_next := fun _ => hle)
        (cur_eq := fun h c hcc => TT.le_antisymm (hcur c hcc) (h c hcc ▸ hold))
        (begun_le := fun h b hb => TT.le_trans (h b hb) hold)
    · exact hpo.of_same (hne p hpq) (fun ad had f hf => hpo.anc ad had f (hfront ad.1 ▸ hf)) hprog
  · refine (hpcs p hp hpk).transfer (by rw [hsame]) (by rw [hsame]) fun t _ h1 h2 => ⟨by rw [hsame]; exact h1, ?_⟩
    by_cases hpq : p = q
    · subst hpq
      rw [hq]
      exact TT.le_antisymm (hhead t h1) (h2 ▸ hold)
    · rw [hne p hpq]
      exact h2

theorem advance_good {cfg : Cfg} (hw : WFCfg cfg) {s : State} {k : Sid} (hf : s.failed = none) (hc : Core cfg s)
    (hpcs : PcsBut cfg s k) {q : Sid} (hq : q < cfg.n) :
    (advance cfg s q).failed = none ∧ Core cfg (advance cfg s q) ∧ PcsBut cfg (advance cfg s q) k := by
  rw [advance_eq hw (hc q hq)]
  exact ⟨hf, raise_good hc hpcs q _ (progress_le_new hw (hc q hq)) (minTT_le_init _ _)
    (fun ad had f hf => minTT_le_mem _ _ _ ((mem_candidates hw s q _).mpr (Or.inl ⟨ad, had, f, hf, rfl⟩)))
    (fun t ht => minTT_le_mem _ _ _ ((mem_candidates hw s q _).mpr (Or.inr (Or.inl ht))))
    (fun c hc => minTT_le_mem _ _ _ ((mem_candidates hw s q _).mpr (Or.inr (Or.inr hc))))⟩

theorem advanceAll_good {cfg : Cfg} (hw : WFCfg cfg) {s : State} {k : Sid} (hf : s.failed = none) (hc : Core cfg s)
    (hpcs : PcsBut cfg s k) :
    (advanceAll cfg s).failed = none ∧ Core cfg (advanceAll cfg s) ∧ PcsBut cfg (advanceAll cfg s) k := by
  unfold advanceAll
  apply foldl_inv (fun st => st.failed = none ∧ Core cfg st ∧ PcsBut cfg st k)
  · exact ⟨hf, hc, hpcs⟩
  · intro st q hq ⟨h1, h2, h3⟩
    rw [if_neg (by rw [h1]; simp)]
    exact advance_good hw h1 h2 h3 (List.mem_range.mp hq)

theorem contains_false_not_mem {l : List TT} {t : TT} (h : l.contains t = false) : t ∉ l := by
  intro hm
  have : l.contains t = true := by simpa using hm
  rw [h] at this; cases this

theorem head_schedule {s : State} {b : Sid} {t f : TT} (h : ((schedule s b t).sims b).next.head? = some f) :
    (s.sims b).next.head? = some f ∨ f = t := by
  rcases schedule_next s b t with ⟨_, e⟩ | ⟨_, e⟩ <;> rw [e] at h
  · exact Or.inl h
  · rw [head_insertSorted] at h
    cases hh : (s.sims b).next.head? with
    | none => rw [hh] at h; exact Or.inr (Option.some.inj h).symm
    | some h0 =>
      rw [hh] at h
      simp only [Option.some.injEq] at h
      split at h
      · exact Or.inr h.symm
      · exact Or.inl (by rw [h])

theorem front_schedule {s : State} {b : Sid} {t : TT} {a : Sid} {f : TT} (h : front ((schedule s b t).sims a) = some f) :
    front (s.sims a) = some f ∨ (a = b ∧ f = t) := by
  by_cases hab : a = b
  · subst hab
    unfold front at h ⊢
    rw [schedule_sims] at h
    cases hcur : (s.sims a).cur with
    | some c => rw [hcur] at h; exact Or.inl h
    | none =>
      rw [hcur] at h
      exact (head_schedule h).imp id fun h => ⟨rfl, h⟩
  · rw [schedule_other _ _ hab] at h; exact Or.inl h

theorem schedule_good {cfg : Cfg} {s : State} {k : Sid} (hc : Core cfg s) (hpcs : PcsBut cfg s k) (b : Sid) (t : TT)
    (h1 : (s.sims b).progress ≤ t)
    (h2 : ∀ bb ∈ (s.sims b).begun, bb < t)
    (h3 : ∀ q, q < cfg.n → ∀ ad ∈ (cfg.sim q).trigAnc, ad.1 = b → (s.sims q).progress ≤ TI.act t ad.2) :
    Core cfg (schedule s b t) ∧ PcsBut cfg (schedule s b t) k := by
  have hanc : ∀ q, q < cfg.n → ∀ ad ∈ (cfg.sim q).trigAnc, ∀ f, front ((schedule s b t).sims ad.1) = some f →
      (s.sims q).progress ≤ TI.act f ad.2 := by
    intro q hq ad had f hf
    rcases front_schedule hf with h | ⟨hab, rfl⟩
    · exact (hc q hq).anc ad had f h
    · exact h3 q hq ad had hab
  have hprog : ∀ a, (s.sims a).progress ≤ ((schedule s b t).sims a).progress := fun a => by
    rw [schedule_sims]; exact TT.le_refl _
  constructor
  · intro p hp
    have hpo := hc p hp
    by_cases hpb : p = b
    · subst hpb
      have hmem := mem_next_schedule s p t p
      have hs : SortedTT ((schedule s p t).sims p).next := by
        rcases schedule_next s p t with ⟨_, e⟩ | ⟨hn, e⟩ <;> rw [e]
        · exact hpo.sorted
        · exact sorted_insertSorted t _ hpo.sorted hn
      exact hpo.update (schedule_sims s p t p) (hanc p hp) hprog
        (le_next := fun h x hx => by
          rcases (hmem x).mp hx with ⟨_, rfl⟩ | hx
          · exact h1
          · exact h x hx)
        (begun_lt_next := fun h bb hbb x hx => by
          rcases (hmem x).mp hx with ⟨_, rfl⟩ | hx
          · exact h2 bb hbb
          · exact h bb hbb x hx)
        (sorted := fun _ => hs)
    · exact hpo.of_same (schedule_other _ _ hpb) (hanc p hp) hprog
  · intro p hp hpk
    refine (hpcs p hp hpk).transfer (by rw [schedule_sims]) (by rw [schedule_sims]) ?_
    intro tb _ w1 w2
    refine ⟨?_, by rw [schedule_sims]; exact w2⟩
    by_cases hpb : p = b
    · subst hpb
      rcases schedule_next s p t with ⟨_, e⟩ | ⟨_, e⟩ <;> rw [e]
      · exact w1
      · rw [head_insertSorted, w1]
        simp [TT.not_lt.mpr (w2 ▸ h1)]
    · rw [schedule_other _ _ hpb]; exact w1

theorem settle_good {cfg : Cfg} {s : State} {p : Sid} (hc : Core cfg s) (hpcs : PcsBut cfg s p)
    (hcur : (s.sims p).cur = none) : Core cfg (settle cfg s p) ∧ Pcs cfg (settle cfg s p) := by
  have hfld : ∀ q, ((settle cfg s p).sims q).core = (s.sims q).core := fun q => by rw [settle_sims]
  refine ⟨Core.congr hfld hc, fun q hq => ?_⟩
  by_cases hqp : q = p
  · subst hqp
    have hpc : ((settle cfg s q).sims q).pc = settlePc cfg s q := by rw [settle_same]
    exact {
      inflight := by
        rw [hpc]
        rintro (h | h) <;> rcases settlePc_cases cfg s q with ⟨_, e⟩ | ⟨_, _, e⟩ | ⟨_, _, e⟩ <;> rw [e] at h <;> cases h
      idle := by
        intro _
        rw [settle_same]
        exact hcur
      waiting := by
        rw [hpc, settle_same]
        intro t ht
        rcases settlePc_cases cfg s q with ⟨_, e⟩ | ⟨h1, h2, e⟩ | ⟨_, _, e⟩ <;> rw [e] at ht <;> cases ht
        exact ⟨h2, rfl, h1⟩ }
  · exact PcsBut.congr hfld (fun q hq => by rw [settle_other _ _ hq]) hpcs q hq hqp

/-- what `notify_dependencies` needs to know about the step that just ended: it was the
earliest unfinished step of `p`, and the facts the invariants give about it -/
structure Ended (cfg : Cfg) (s : State) (p : Sid) (c : TT) : Prop where
  anc : ∀ q, q < cfg.n → ∀ ad ∈ (cfg.sim q).trigAnc, ad.1 = p → (s.sims q).progress ≤ TI.act c ad.2
  inputs : ∀ b, b < cfg.n → ∀ bb ∈ (s.sims b).begun, ∀ qd ∈ (cfg.sim b).inputDelays, qd.1 = p → bb < TI.act c qd.2

theorem ended_cur {cfg : Cfg} {s : State} {p : Sid} (hp : p < cfg.n) {c : TT} (hc : Core cfg s)
    (hcur : (s.sims p).cur = some c) : Ended cfg s p c where
  anc := fun q hq ad had hap => (hc q hq).anc ad had c (by rw [hap]; exact front_cur hcur)
  inputs := fun b hb bb hbb qd hqd hqp => by
    have := (hc b hb).inputs bb hbb qd hqd
    rwa [hqp, (hc p hp).cur_eq c hcur] at this

theorem Ended.congr {cfg : Cfg} {s s' : State} {p : Sid} {c : TT} (h : Ended cfg s p c)
    (hn : ∀ q, (s'.sims q).progress = (s.sims q).progress ∧ (s'.sims q).begun = (s.sims q).begun) : Ended cfg s' p c where
  anc := fun q hq ad had hp => by rw [(hn q).1]; exact h.anc q hq ad had hp
  inputs := fun b hb bb hbb qd hqd hp => by rw [(hn b).2] at hbb; exact h.inputs b hb bb hbb qd hqd hp

/-- an output of `q`'s step `c` with output time `outT ≥ c` triggers the target of `tr` no earlier than `q`'s entry in the
target's ancestor table says -/
theorem trigger_le_direct {cfg : Cfg} (hw : WFCfg cfg) {q : Sid} (hq : q < cfg.n) {tr : Port × Sid × TI}
    (htr : tr ∈ (cfg.sim q).triggers) {c outT : TT} (hle : c ≤ outT) :
    ∃ d', (q, d') ∈ (cfg.sim tr.2.1).trigAnc ∧ TI.act c d' ≤ TI.act outT tr.2.2 := by
  obtain ⟨d', hd', hle'⟩ := hw.direct q hq tr htr
  exact ⟨d', hd', TT.le_trans (TI.act_mono_right c hle') (TI.act_mono_left _ hle)⟩

/-- … and if the target is an ancestor `ad` of `p`, its triggered step, delayed by `ad`'s delay, comes no earlier than `q`'s
own entry in the ancestor table of `p` says -/
theorem trigger_le_trans {cfg : Cfg} (hw : WFCfg cfg) {q : Sid} (hq : q < cfg.n) {tr : Port × Sid × TI}
    (htr : tr ∈ (cfg.sim q).triggers) {p : Sid} (hp : p < cfg.n) {ad : Sid × TI} (had : ad ∈ (cfg.sim p).trigAnc)
    (hb : ad.1 = tr.2.1) {c outT : TT} (hle : c ≤ outT) :
    ∃ d', (q, d') ∈ (cfg.sim p).trigAnc ∧ TI.act c d' ≤ TI.act (TI.act outT tr.2.2) ad.2 := by
  obtain ⟨⟨d', hd', hle'⟩, hcut⟩ := hw.trans q hq tr htr p hp ad had hb
  have h2 : TI.act c d' ≤ TI.act c (TI.add tr.2.2 ad.2) := TI.act_mono_right c hle'
  rw [← TI.act_act c tr.2.2 ad.2 hcut] at h2
  exact ⟨d', hd', TT.le_trans h2 (TI.act_mono_left _ (TI.act_mono_left _ hle))⟩

/-- the three conditions of `schedule_good` come from the closure properties of the ancestor table -/
theorem schedule_triggered_good {cfg : Cfg} (hw : WFCfg cfg) {st : State} {k p : Sid} (hp : p < cfg.n) {c outT : TT}
    (hc : Core cfg st) (hpcs : PcsBut cfg st k) (he : Ended cfg st p c) (hout : c ≤ outT)
    {tr : Port × Sid × TI} (htr : tr ∈ (cfg.sim p).triggers) :
    Core cfg (schedule st tr.2.1 (TI.act outT tr.2.2)) ∧ PcsBut cfg (schedule st tr.2.1 (TI.act outT tr.2.2)) k := by
  have hb : tr.2.1 < cfg.n := hw.trigTarget p hp tr htr
  apply schedule_good hc hpcs
  · obtain ⟨d', hd', hle⟩ := trigger_le_direct hw hp htr hout
    exact TT.le_trans (he.anc _ hb (p, d') hd' rfl) hle
  · intro bb hbb
    obtain ⟨d0, hd0, hle⟩ := hw.trigInput p hp tr htr
    exact TT.lt_of_lt_of_le (he.inputs _ hb bb hbb (p, d0) hd0 rfl)
      (TT.le_trans (TI.act_mono_right c hle) (TI.act_mono_left _ hout))
  · intro q hq ad had hab
    obtain ⟨d', hd', hle⟩ := trigger_le_trans hw hp htr hq had hab hout
    exact TT.le_trans (he.anc q hq (p, d') hd' rfl) hle

theorem notify_good {cfg : Cfg} (hw : WFCfg cfg) {s : State} {k p : Sid} (hp : p < cfg.n) {c : TT}
    (hc : Core cfg s) (hpcs : PcsBut cfg s k) (he : Ended cfg s p c)
    (hout : (cfg.sim p).triggers = [] ∨ c ≤ (s.sims p).outTime) :
    Core cfg (notify cfg s p) ∧ PcsBut cfg (notify cfg s p) k := by
  unfold notify
  rcases hout with hnil | hout
  · rw [hnil]; exact ⟨hc, hpcs⟩
  · refine (foldl_inv (fun st => (Core cfg st ∧ PcsBut cfg st k) ∧
        ∀ q, (st.sims q).progress = (s.sims q).progress ∧ (st.sims q).begun = (s.sims q).begun) _ _ s
      ⟨⟨hc, hpcs⟩, fun _ => ⟨rfl, rfl⟩⟩ ?_).1
    rintro st tr htr ⟨⟨h1, h2⟩, h3⟩
    split
    · exact ⟨schedule_triggered_good hw hp h1 h2 (he.congr h3) hout htr, fun q => by rw [schedule_sims]; exact h3 q⟩
    · exact ⟨⟨h1, h2⟩, h3⟩

/-- `current_step = None` keeps the invariants: the earliest unfinished step of `p` moves to a later one -/
theorem clearCur_good {cfg : Cfg} {s : State} {p : Sid} (hp : p < cfg.n) {c : TT}
    (hc : Core cfg s) (hpcs : PcsBut cfg s p) (hcur : (s.sims p).cur = some c) :
    Core cfg (clearCur s p c) ∧ PcsBut cfg (clearCur s p c) p := by
  have hpo := hc p hp
  have hother : ∀ q, q ≠ p → (clearCur s p c).sims q = s.sims q := fun q hq => by
    rw [clearCur_upd]; exact State.upd_other _ _ hq
  have hcurp : ((clearCur s p c).sims p).cur = none := by rw [clearCur_upd, State.upd_same]
  refine ⟨fun q hq => (hc q hq).transfer (by rw [clearCur_sims]) (by rw [clearCur_sims]) ?_ (by rw [clearCur_sims]) ?_
    (fun a => by rw [clearCur_sims]; exact TT.le_refl _), fun q hq hqp => (hpcs q hq hqp).of_same (hother q hqp)⟩
  · intro c' h'
    by_cases hqp : q = p
    · subst hqp; rw [hcurp] at h'; cases h'
    · rwa [hother q hqp] at h'
  · intro ad had f hf
    by_cases hap : ad.1 = p
    · rw [hap, front_none hcurp, clearCur_sims] at hf
      exact TT.le_trans ((ended_cur hp hc hcur).anc q hq ad had hap)
        (TI.act_mono_left _ (TT.le_of_lt (hpo.begun_lt_next c (hpo.cur_begun c hcur) f (List.mem_of_mem_head? hf))))
    · rw [hother _ hap] at hf; exact (hc q hq).anc ad had f hf

theorem finish_good {cfg : Cfg} (hw : WFCfg cfg) {s : State} {p : Sid} (hp : p < cfg.n) {c : TT}
    (hf : s.failed = none) (hc : Core cfg s) (hpcs : PcsBut cfg s p) (hcur : (s.sims p).cur = some c)
    (hout : (cfg.sim p).triggers = [] ∨ c ≤ (s.sims p).outTime) :
    (finish cfg s p c).failed = none ∧ Core cfg (finish cfg s p c) ∧ Pcs cfg (finish cfg s p c) := by
  obtain ⟨hc1, hp1⟩ := clearCur_good hp hc hpcs hcur
  have he1 : Ended cfg (clearCur s p c) p c := (ended_cur hp hc hcur).congr fun q => by
    rw [clearCur_sims]
    exact ⟨rfl, rfl⟩
  obtain ⟨hc2, hp2⟩ := notify_good hw hp hc1 hp1 he1 (by rw [clearCur_upd, State.upd_same]; exact hout)
  obtain ⟨hf3, hc3, hp3⟩ := advanceAll_good hw (by rw [notify_state]; exact hf) hc2 hp2
  have hcur3 : ((advanceAll cfg (notify cfg (clearCur s p c) p)).sims p).cur = none := by
    rw [advanceAll_sims, notify_sims, clearCur_upd, State.upd_same]
  have hsettle : ∀ s4, CtrlEq (advanceAll cfg (notify cfg (clearCur s p c) p)) s4 → s4.failed = none →
      (settle cfg s4 p).failed = none ∧ Core cfg (settle cfg s4 p) ∧ Pcs cfg (settle cfg s4 p) := by
    intro s4 hce hf4
    exact ⟨by rw [settle_failed]; exact hf4,
      settle_good (hce.core hc3) (hce.pcsBut hp3) (by rw [hce.cur p]; exact hcur3)⟩
  unfold finish
  simp only
  rw [if_neg (by rw [hf3]; simp)]
  split
  · exact hsettle _ (prune_ctrlEq cfg _) hf3
  · exact hsettle _ (CtrlEq.refl _) hf3

theorem begin_good {cfg : Cfg} {s : State} {p : Sid} (hp : p < cfg.n) {c : TT} {rest : List TT}
    (hc : Core cfg s) (hpcs : Pcs cfg s) (hpc : (s.sims p).pc = .waitDeps c) (hnext : (s.sims p).next = c :: rest)
    (hin : ∀ qd ∈ (cfg.sim p).inputDelays, c < TI.act (s.sims qd.1).progress qd.2) :
    Core cfg (begunState cfg s p c rest) ∧ Pcs cfg (begunState cfg s p c rest) := by
  have hself := begunState_same cfg s p c rest
  have hother : ∀ q, q ≠ p → (begunState cfg s p c rest).sims q = s.sims q := fun q hq => begunState_other cfg s p c rest hq
  have hpo := hc p hp
  have hpr : (s.sims p).progress = c := ((hpcs p hp).waiting c hpc).2.1
  have hsc := List.pairwise_cons.mp (hnext ▸ hpo.sorted)
  have hfront : ∀ a, front ((begunState cfg s p c rest).sims a) = front (s.sims a) := by
    intro a
    by_cases hap : a = p
    · subst hap
      rw [front_cur (c := c) (by rw [hself]), front_none ((hpcs a hp).idle (by rw [hpc]; simp)), hnext]; rfl
    · rw [hother a hap]
  have hprog : ∀ a, (s.sims a).progress ≤ ((begunState cfg s p c rest).sims a).progress := by
    intro a
    by_cases hap : a = p
    · rw [hap, hself]; exact TT.le_refl _
    · rw [hother a hap]; exact TT.le_refl _
  refine ⟨fun q hq => ?_, fun q hq => ?_⟩
  · by_cases hqp : q = p
    · subst hqp
      exact hpo.update hself (fun ad had f hf => hpo.anc ad had f (hfront ad.1 ▸ hf)) hprog
        (le_next := fun _ x hx => TT.le_trans (TT.le_of_eq hpr) (TT.le_of_lt (hsc.1 x hx)))
        (cur_eq := fun _ _ h => hpr.trans (Option.some.inj h))
        (cur_begun := fun _ _ h => Option.some.inj h ▸ List.mem_cons_self)
        (begun_lt_next := fun h b hb x hx => by
          rcases List.mem_cons.mp hb with rfl | hb
          · exact hsc.1 x hx
          · exact h b hb x (by rw [hnext]; exact List.mem_cons_of_mem _ hx))
        (begun_le := fun h b hb => by
          rcases List.mem_cons.mp hb with rfl | hb
          · exact TT.le_of_eq hpr.symm
          · exact h b hb)
        (begun_sorted := fun h =>
          List.pairwise_cons.mpr ⟨fun b hb => hpo.begun_lt_next b hb c (by rw [hnext]; exact List.mem_cons_self), h⟩)
        (sorted := fun _ => hsc.2)
        (inputs := fun h b hb qd hqd => by
          rcases List.mem_cons.mp hb with rfl | hb
          · exact hin qd hqd
          · exact h b hb qd hqd)
    · exact (hc q hq).of_same (hother q hqp) (fun ad had f hf => (hc q hq).anc ad had f (hfront ad.1 ▸ hf)) hprog
  · by_cases hqp : q = p
    · subst hqp
      exact {
        inflight := fun _ => ⟨c, by rw [hself]⟩
        idle := fun hn => absurd (Or.inl (by rw [hself])) hn
        waiting := fun t ht => by rw [hself] at ht; cases ht }
    · exact (hpcs q hq).of_same (hother q hqp)

end Mosaik
