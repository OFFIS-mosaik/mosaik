/-
The blocks `step` is composed of (`advance`, `schedule`, `notify`, `settle`, `prune`, `storeOutputs`, `finish`, …), each
described once:

* its *footprint* (`…_sims`): which fields of a simulator's state the block can write.  The equation
  `(B s).sims q = { s.sims q with f := ((B s).sims q).f, … }` is used by rewriting; what is left is a projection of a
  structure update and closes by `rfl`.  The footprints hold whether or not the block fails;
* whom it touches (`…_other`);
* what else of the state it writes (`…_state`): of `failed`, `clock` and `log`, those that do not occur in
  `B s = { s with sims := (B s).sims, … }` are unchanged;
* when it fails and what it is otherwise (`…_cases`), and its straight-line form if the result has not failed (`…_nf`);
* for a block that is one point update, that update (`settle_upd`, `clearCur_upd`).

`Fires` is `step` read as a relation: the guard of each atomic block and the state it leads to (`step_iff_fires`).  A statement
about all actions is a `cases step_fires h`; in a result that has not failed (`hnf`) the cases open the same way each time:
`start` / `wake` by `settled_nf` (after `woken_of_noRt` outside real-time mode); `deps` by `beginStep_nf`, then
`begunState_same` / `begunState_other`; `stepReply` by `processStepReply_nf`, `afterStep_cases`, `finish_nf`, rewriting `hnf`
along; `dataReply` by `processDataReply_nf`, `finish_nf`; the refusals by `State.fail_ne_none`.
-/
import MosaikProofs.Lemmas.SchedBasics
namespace Mosaik

theorem ite_failed_nf {st y : State} (h : (if st.failed.isSome = true then st else y).failed = none) :
    st.failed = none ∧ (if st.failed.isSome = true then st else y) = y := by
  split at h
  · rename_i hf; rw [h] at hf; cases hf
  · rename_i hf; exact ⟨Option.not_isSome_iff_eq_none.mp hf, if_neg hf⟩

theorem foldl_inv {α : Type} (P : State → Prop) (f : State → α → State) :
    ∀ (l : List α) (s : State), P s → (∀ st a, a ∈ l → P st → P (f st a)) → P (l.foldl f s) := by
  intro l
  induction l with
  | nil => exact fun _ h0 _ => h0
  | cons a as ih =>
    intro s h0 hstep
    rw [List.foldl_cons]
    exact ih (f s a) (hstep s a List.mem_cons_self h0) (fun st b hb hP => hstep st b (List.mem_cons_of_mem _ hb) hP)

/-- the conjunction `wait_for_dependencies` waits for: every input provider has passed `t`, every simulator that may send
asynchronous requests has reached `t`, and under lazy stepping so has every successor -/
theorem depsReady_iff {cfg : Cfg} {s : State} {p : Sid} {t : TT} :
    depsReady cfg s p t = true ↔
      (∀ qd ∈ (cfg.sim p).inputDelays, t < TI.act (s.sims qd.1).progress qd.2) ∧
      (∀ sd ∈ (cfg.sim p).succsWait, TI.act t sd.2 ≤ (s.sims sd.1).progress) ∧
      (cfg.lazy_ = true → ∀ sd ∈ (cfg.sim p).succs, TI.act t sd.2 ≤ (s.sims sd.1).progress) := by
  unfold depsReady
  simp only [Bool.and_eq_true, List.all_eq_true, decide_eq_true_eq, Bool.or_eq_true, Bool.not_eq_eq_eq_not, Bool.not_true]
  constructor
  · rintro ⟨⟨h1, h2⟩, h3⟩
    exact ⟨h1, h2, fun hl => h3.resolve_left (by rw [hl]; simp)⟩
  · rintro ⟨h1, h2, h3⟩
    refine ⟨⟨h1, h2⟩, ?_⟩
    cases hl : cfg.lazy_
    · exact Or.inl rfl
    · exact Or.inr (h3 hl)

theorem not_depsReady {cfg : Cfg} {s : State} {p : Sid} {t : TT} (h : depsReady cfg s p t = false) :
    (∃ qd ∈ (cfg.sim p).inputDelays, ¬ t < TI.act (s.sims qd.1).progress qd.2) ∨
    (∃ sd ∈ (cfg.sim p).succsWait, ¬ TI.act t sd.2 ≤ (s.sims sd.1).progress) ∨
    (∃ sd ∈ (cfg.sim p).succs, ¬ TI.act t sd.2 ≤ (s.sims sd.1).progress) := by
  unfold depsReady at h
  simp only [Bool.and_eq_false_iff, Bool.or_eq_false_iff, List.all_eq_false, decide_eq_true_eq] at h
  rcases h with (h | h) | ⟨_, h⟩
  · exact Or.inl h
  · exact Or.inr (Or.inl h)
  · exact Or.inr (Or.inr h)

/-- the value `advance_progress` computes -/
def newProgress (cfg : Cfg) (s : State) (q : Sid) : TT := minTT (cfg.endT q) (candidates cfg s q)

theorem advance_sims (cfg : Cfg) (s : State) (p q : Sid) :
    (advance cfg s p).sims q = { s.sims q with progress := ((advance cfg s p).sims q).progress } := by
  unfold advance
  simp only
  split
  · rw [State.fail_sims]
  · rw [State.upd_sims]; split <;> rfl

theorem advance_other (cfg : Cfg) (s : State) {p q : Sid} (h : q ≠ p) : (advance cfg s p).sims q = s.sims q := by
  unfold advance
  simp only
  split
  · rw [State.fail_sims]
  · exact State.upd_other _ _ h

theorem advance_state (cfg : Cfg) (s : State) (p : Sid) :
    advance cfg s p = { s with sims := (advance cfg s p).sims, failed := (advance cfg s p).failed } := by
  unfold advance State.fail
  simp only
  split
  · split <;> rfl
  · rfl

theorem advance_nf {cfg : Cfg} {s : State} {q : Sid} (hnf : (advance cfg s q).failed = none) :
    advance cfg s q = s.upd q (fun x => { x with progress := newProgress cfg s q }) := by
  unfold advance at hnf ⊢
  simp only at hnf ⊢
  split
  · rename_i h
    rw [if_pos h] at hnf
    exact absurd hnf (State.fail_ne_none _ _)
  · rfl

theorem advanceAll_sims (cfg : Cfg) (s : State) (q : Sid) :
    (advanceAll cfg s).sims q = { s.sims q with progress := ((advanceAll cfg s).sims q).progress } := by
  unfold advanceAll
  apply foldl_inv (fun st => st.sims q = { s.sims q with progress := (st.sims q).progress })
  · rfl
  · intro st a _ h
    split
    · exact h
    · rw [advance_sims, h]

theorem advanceAll_state (cfg : Cfg) (s : State) :
    advanceAll cfg s = { s with sims := (advanceAll cfg s).sims, failed := (advanceAll cfg s).failed } := by
  unfold advanceAll
  apply foldl_inv (fun st => st = { s with sims := st.sims, failed := st.failed })
  · rfl
  · intro st a _ h
    split
    · exact h
    · rw [advance_state, h]

theorem advance_progress_le (cfg : Cfg) (s : State) (p q : Sid) :
    (s.sims q).progress ≤ ((advance cfg s p).sims q).progress := by
  unfold advance
  simp only
  split
  · rw [State.fail_sims]; exact TT.le_refl _
  · rename_i hlt
    rw [State.upd_sims]
    split
    · rename_i hqp; rw [hqp]; exact TT.not_lt.mp hlt
    · exact TT.le_refl _

theorem advanceAll_progress_le (cfg : Cfg) (s : State) (q : Sid) :
    (s.sims q).progress ≤ ((advanceAll cfg s).sims q).progress := by
  unfold advanceAll
  apply foldl_inv (fun st => (s.sims q).progress ≤ (st.sims q).progress)
  · exact TT.le_refl _
  · intro st p _ h
    split
    · exact h
    · exact TT.le_trans h (advance_progress_le cfg st p q)

theorem schedule_sims (s : State) (b : Sid) (t : TT) (q : Sid) :
    (schedule s b t).sims q = { s.sims q with next := ((schedule s b t).sims q).next, newer := ((schedule s b t).sims q).newer } := by
  unfold schedule
  simp only
  split
  · rfl
  · rw [State.upd_sims]; split <;> rfl

theorem schedule_other (s : State) {b q : Sid} (t : TT) (h : q ≠ b) : (schedule s b t).sims q = s.sims q := by
  unfold schedule
  simp only
  split
  · rfl
  · exact State.upd_other _ _ h

theorem schedule_state (s : State) (b : Sid) (t : TT) : schedule s b t = { s with sims := (schedule s b t).sims } := by
  unfold schedule
  simp only
  split <;> rfl

theorem schedule_next (s : State) (b : Sid) (t : TT) :
    (t ∈ (s.sims b).next ∧ ((schedule s b t).sims b).next = (s.sims b).next) ∨
    (t ∉ (s.sims b).next ∧ ((schedule s b t).sims b).next = insertSorted t (s.sims b).next) := by
  unfold schedule
  by_cases h : (s.sims b).next.contains t = true
  · rw [if_pos h]
    exact Or.inl ⟨List.contains_iff_mem.mp h, rfl⟩
  · rw [if_neg h, State.upd_same]
    exact Or.inr ⟨fun hm => h (List.contains_iff_mem.mpr hm), rfl⟩

theorem mem_next_schedule (s : State) (q : Sid) (t : TT) (b : Sid) (x : TT) :
    x ∈ ((schedule s q t).sims b).next ↔ (b = q ∧ x = t) ∨ x ∈ (s.sims b).next := by
  by_cases hb : b = q
  · subst hb
    rw [and_iff_right rfl]
    rcases schedule_next s b t with ⟨hm, e⟩ | ⟨_, e⟩ <;> rw [e]
    · exact ⟨Or.inr, fun h => h.elim (fun h => h ▸ hm) id⟩
    · exact mem_insertSorted t _ x
  · rw [schedule_other _ _ hb]
    simp only [hb, false_and, false_or]

theorem notify_sims (cfg : Cfg) (s : State) (p q : Sid) :
    (notify cfg s p).sims q = { s.sims q with next := ((notify cfg s p).sims q).next, newer := ((notify cfg s p).sims q).newer } := by
  unfold notify
  apply foldl_inv (fun st => st.sims q = { s.sims q with next := (st.sims q).next, newer := (st.sims q).newer })
  · rfl
  · intro st tr _ h
    split
    · rw [schedule_sims, h]
    · exact h

theorem notify_state (cfg : Cfg) (s : State) (p : Sid) : notify cfg s p = { s with sims := (notify cfg s p).sims } := by
  unfold notify
  apply foldl_inv (fun st => st = { s with sims := st.sims })
  · rfl
  · intro st tr _ h
    split
    · rw [schedule_state, h]
    · exact h

theorem mem_notify_next (cfg : Cfg) (s : State) (p b : Sid) (x : TT) :
    x ∈ ((notify cfg s p).sims b).next ↔
      x ∈ (s.sims b).next ∨ ∃ tr ∈ (cfg.sim p).triggers, tr.2.1 = b ∧ OutData.has (s.sims p).data tr.1 = true ∧
        x = TI.act (s.sims p).outTime tr.2.2 := by
  unfold notify
  generalize (s.sims p).data = data
  generalize (s.sims p).outTime = outT
  induction (cfg.sim p).triggers generalizing s with
  | nil => simp
  | cons tr l ih =>
    rw [List.foldl_cons, ih]
    by_cases hhas : OutData.has data tr.1 = true
    · rw [if_pos hhas, mem_next_schedule]
      constructor
      · rintro ((⟨hb, rfl⟩ | h) | ⟨tr', h1, h2⟩)
        · exact Or.inr ⟨tr, List.mem_cons_self, hb.symm, hhas, rfl⟩
        · exact Or.inl h
        · exact Or.inr ⟨tr', List.mem_cons_of_mem _ h1, h2⟩
      · rintro (h | ⟨tr', h1, h2, h3, h4⟩)
        · exact Or.inl (Or.inr h)
        · rcases List.mem_cons.mp h1 with rfl | h1
          · exact Or.inl (Or.inl ⟨h2.symm, h4⟩)
          · exact Or.inr ⟨tr', h1, h2, h3, h4⟩
    · rw [if_neg hhas]
      constructor
      · rintro (h | ⟨tr', h1, h2⟩)
        · exact Or.inl h
        · exact Or.inr ⟨tr', List.mem_cons_of_mem _ h1, h2⟩
      · rintro (h | ⟨tr', h1, h2, h3, h4⟩)
        · exact Or.inl h
        · rcases List.mem_cons.mp h1 with rfl | h1
          · exact absurd h3 hhas
          · exact Or.inr ⟨tr', h1, h2, h3, h4⟩

/-- the program counter `next_step_settled` leaves `p` with -/
def settlePc (cfg : Cfg) (s : State) (p : Sid) : PC :=
  let x := s.sims p
  if TT.time x.progress ≥ cfg.until_ then .done
  else match x.next.head? with
    | some h =>
      if h = x.progress then .waitDeps h
      else .awaitSettle (if cfg.endT p < h then cfg.endT p else h) (cfg.rt.map (s.clock + ·))
    | .none => .awaitSettle (cfg.endT p) (cfg.rt.map (s.clock + ·))

/-- the time `next_step_settled` would wait for now -/
def awaitTarget (cfg : Cfg) (s : State) (q : Sid) : TT :=
  match (s.sims q).next.head? with
  | some h => if cfg.endT q < h then cfg.endT q else h
  | none => cfg.endT q

theorem settlePc_cases (cfg : Cfg) (s : State) (p : Sid) :
    (cfg.until_ ≤ TT.time (s.sims p).progress ∧ settlePc cfg s p = .done) ∨
    (TT.time (s.sims p).progress < cfg.until_ ∧ (s.sims p).next.head? = some (s.sims p).progress ∧
      settlePc cfg s p = .waitDeps (s.sims p).progress) ∨
    (TT.time (s.sims p).progress < cfg.until_ ∧ (s.sims p).next.head? ≠ some (s.sims p).progress ∧
      settlePc cfg s p = .awaitSettle (awaitTarget cfg s p) (cfg.rt.map (s.clock + ·))) := by
  unfold settlePc awaitTarget
  simp only
  by_cases h1 : TT.time (s.sims p).progress ≥ cfg.until_
  · rw [if_pos h1]; exact Or.inl ⟨h1, rfl⟩
  · rw [if_neg h1]
    cases (s.sims p).next.head? with
    | none => exact Or.inr (Or.inr ⟨Nat.lt_of_not_le h1, nofun, rfl⟩)
    | some h =>
      simp only
      by_cases h2 : h = (s.sims p).progress
      · rw [if_pos h2, h2]; exact Or.inr (Or.inl ⟨Nat.lt_of_not_le h1, rfl, rfl⟩)
      · rw [if_neg h2]; exact Or.inr (Or.inr ⟨Nat.lt_of_not_le h1, fun e => h2 (Option.some.inj e), rfl⟩)

theorem awaitTarget_le_end (cfg : Cfg) (s : State) (q : Sid) : awaitTarget cfg s q ≤ cfg.endT q := by
  unfold awaitTarget
  split
  · split
    · exact TT.le_refl _
    · rename_i h; exact TT.not_lt.mp h
  · exact TT.le_refl _

theorem settle_eq (cfg : Cfg) (s : State) (p : Sid) :
    settle cfg s p = (s.upd p fun x => { x with pc := settlePc cfg s p }) ∨
    settle cfg s p = (s.upd p fun x => { x with pc := settlePc cfg s p }).emit (.done p) := by
  unfold settle settlePc
  simp only
  by_cases h1 : TT.time (s.sims p).progress ≥ cfg.until_
  · rw [if_pos h1, if_pos h1]; exact Or.inr rfl
  · rw [if_neg h1, if_neg h1]
    cases (s.sims p).next.head? with
    | none => exact Or.inl rfl
    | some h => exact Or.inl (apply_ite (fun pc => s.upd p fun x => { x with pc := pc }) _ _ _).symm

theorem settle_upd (cfg : Cfg) (s : State) (p : Sid) :
    (settle cfg s p).sims = (s.upd p fun x => { x with pc := settlePc cfg s p }).sims := by
  rcases settle_eq cfg s p with e | e <;> rw [e] <;> rfl

theorem settle_other (cfg : Cfg) (s : State) {p q : Sid} (h : q ≠ p) : (settle cfg s p).sims q = s.sims q := by
  rw [settle_upd]; exact State.upd_other _ _ h

theorem settle_same (cfg : Cfg) (s : State) (p : Sid) : (settle cfg s p).sims p = { s.sims p with pc := settlePc cfg s p } := by
  rw [settle_upd]; exact State.upd_same _ _ _

theorem settle_sims (cfg : Cfg) (s : State) (p q : Sid) :
    (settle cfg s p).sims q = { s.sims q with pc := ((settle cfg s p).sims q).pc } := by
  rw [settle_upd, State.upd_sims]
  split <;> rfl

theorem settle_state (cfg : Cfg) (s : State) (p : Sid) :
    settle cfg s p = { s with sims := (settle cfg s p).sims, log := (settle cfg s p).log } := by
  rcases settle_eq cfg s p with e | e <;> rw [e] <;> rfl

theorem settle_failed (cfg : Cfg) (s : State) (p : Sid) : (settle cfg s p).failed = s.failed := by
  rw [settle_state]

/-- `next_step_settled`, unless an assert has fired before -/
def settled (cfg : Cfg) (st : State) (p : Sid) : State := if st.failed.isSome then st else settle cfg st p

theorem settled_nf {cfg : Cfg} {st : State} {p : Sid} (h : (settled cfg st p).failed = none) :
    st.failed = none ∧ settled cfg st p = settle cfg st p :=
  ite_failed_nf h

theorem settled_eq {cfg : Cfg} (st : State) (p : Sid) (h : st.failed = none) : settled cfg st p = settle cfg st p :=
  if_neg (by rw [h]; exact Bool.false_ne_true)

theorem settled_other (cfg : Cfg) (st : State) {p q : Sid} (h : q ≠ p) : (settled cfg st p).sims q = st.sims q := by
  unfold settled
  split
  · rfl
  · exact settle_other cfg st h

theorem settled_sims (cfg : Cfg) (st : State) (p q : Sid) :
    (settled cfg st p).sims q = { st.sims q with pc := ((settled cfg st p).sims q).pc } := by
  by_cases hq : q = p
  · subst hq
    unfold settled
    split
    · rfl
    · rw [settle_same]
  · rw [settled_other _ _ hq]

theorem settled_state (cfg : Cfg) (st : State) (p : Sid) :
    settled cfg st p = { st with sims := (settled cfg st p).sims, log := (settled cfg st p).log } := by
  unfold settled
  split
  · rfl
  · exact settle_state cfg st p

theorem prune_sims (cfg : Cfg) (s : State) (q : Sid) :
    (prune cfg s).sims q = { s.sims q with outputs := ((prune cfg s).sims q).outputs } := by
  unfold prune
  by_cases hq : q < cfg.n
  · simp only [if_pos hq]
  · simp only [if_neg hq]

theorem prune_sublist (cfg : Cfg) (s : State) (q : Sid) : ((prune cfg s).sims q).outputs.Sublist (s.sims q).outputs := by
  unfold prune
  by_cases hq : q < cfg.n
  · simp only [if_pos hq]
    exact List.filter_sublist
  · simp only [if_neg hq]
    exact List.Sublist.refl _

theorem clearCur_upd (s : State) (p : Sid) (c : TT) :
    (clearCur s p c).sims = (s.upd p fun x => { x with cur := none }).sims := rfl

theorem clearCur_sims (s : State) (p : Sid) (c : TT) (q : Sid) :
    (clearCur s p c).sims q = { s.sims q with cur := ((clearCur s p c).sims q).cur } := by
  rw [clearCur_upd, State.upd_sims]
  split <;> rfl

theorem rtCheck_cases (cfg : Cfg) (s : State) (p : Sid) (c : TT) :
    rtCheck cfg s p c = s ∨ rtCheck cfg s p c = s.fail (.rtTooSlow p) ∨ rtCheck cfg s p c = s.emit (.rtWarn p) := by
  unfold rtCheck
  split
  · exact Or.inl rfl
  · split
    · split
      · exact Or.inr (Or.inl rfl)
      · exact Or.inr (Or.inr rfl)
    · exact Or.inl rfl

theorem rtCheck_sims (cfg : Cfg) (s : State) (p : Sid) (c : TT) : (rtCheck cfg s p c).sims = s.sims := by
  rcases rtCheck_cases cfg s p c with e | e | e <;> rw [e]
  · exact State.fail_sims s _
  · rfl

theorem rtCheck_state (cfg : Cfg) (s : State) (p : Sid) (c : TT) :
    rtCheck cfg s p c = { s with failed := (rtCheck cfg s p c).failed, log := (rtCheck cfg s p c).log } := by
  rcases rtCheck_cases cfg s p c with e | e | e <;> rw [e]
  · unfold State.fail
    split <;> rfl
  · rfl

theorem rtCheck_of_noRt {cfg : Cfg} (h : cfg.rt = none) (s : State) (p : Sid) (c : TT) : rtCheck cfg s p c = s := by
  simp [rtCheck, h]

theorem time_zeroExt (n k : Nat) : TT.time (zeroExt n k) = n := by simp [TT.time, zeroExt, tier]

theorem le_outTimeOf (c : TT) (d : DataReply) (h : ¬ (TT.time c : Int) > (outTimeOf c d).1) :
    c ≤ (outTimeOf c d).2 := by
  unfold outTimeOf at h ⊢
  simp only at h ⊢
  split
  · exact TT.le_refl _
  · rename_i hne
    apply TT.le_of_lt
    apply TT.lt_of_time_lt
    rw [time_zeroExt]
    omega

theorem outTimeOf_time (c : TT) (d : DataReply) (h : ¬ (TT.time c : Int) > (outTimeOf c d).1) :
    ((TT.time (outTimeOf c d).2 : Nat) : Int) = (outTimeOf c d).1 := by
  unfold outTimeOf at h ⊢
  simp only at h ⊢
  split
  · rename_i heq; exact heq.symm
  · rw [time_zeroExt]
    exact Int.toNat_of_nonneg (Int.le_trans (Int.natCast_nonneg _) (Int.not_lt.mp h))

/-- the cache update of `get_outputs`: replace the entry for `ot` or append one -/
def cachePut (l : List (Int × OutData)) (ot : Int) (x : OutData) : List (Int × OutData) :=
  if l.any (·.1 == ot) then l.map (fun e => if e.1 == ot then (ot, x) else e) else l ++ [(ot, x)]

/-- one pushed connection of `get_outputs` -/
def pushOne (p : Sid) (ot : Int) (d : DataReply) (st : State) (e : Port × Sid × TI × Port) : State :=
  match OutData.get? d.data e.1 with
  | .none => st
  | some v => st.upd e.2.1 fun y =>
      { y with buffer := insertBuf { time := ot.toNat + tier e.2.2.1.tiers 0, ctr := y.ctr,
                                     key := { eid := e.2.2.2.1, attr := e.2.2.2.2, ssid := p, seid := e.1.1 }, val := v } y.buffer,
               ctr := y.ctr + 1 }

theorem storeOutputs_eq (cfg : Cfg) (s1 : State) (p : Sid) (ot : Int) (d : DataReply) :
    storeOutputs cfg s1 p ot d =
      ((cfg.sim p).push.foldl (pushOne p ot d) (if cfg.useCache then s1.upd p fun x =>
        { x with outputs := cachePut x.outputs ot d.data } else s1)).upd p fun x => { x with data := d.data } := rfl

theorem pushOne_sims (p : Sid) (ot : Int) (d : DataReply) (st : State) (e : Port × Sid × TI × Port) (q : Sid) :
    (pushOne p ot d st e).sims q = { st.sims q with
      buffer := ((pushOne p ot d st e).sims q).buffer, ctr := ((pushOne p ot d st e).sims q).ctr } := by
  unfold pushOne
  split
  · rfl
  · rw [State.upd_sims]; split <;> rfl

theorem storeOutputs_ind (cfg : Cfg) (s : State) (p : Sid) (ot : Int) (d : DataReply) {P : State → Prop} (h0 : P s)
    (hcache : ∀ st, P st → P (st.upd p fun x => { x with outputs := cachePut x.outputs ot d.data }))
    (hpush : ∀ st, ∀ e ∈ (cfg.sim p).push, P st → P (pushOne p ot d st e))
    (hdata : ∀ st, P st → P (st.upd p fun x => { x with data := d.data })) :
    P (storeOutputs cfg s p ot d) := by
  rw [storeOutputs_eq]
  apply hdata
  apply foldl_inv P _ _ _ _ hpush
  split
  · exact hcache s h0
  · exact h0

theorem storeOutputs_sims (cfg : Cfg) (s : State) (p : Sid) (ot : Int) (d : DataReply) (q : Sid) :
    (storeOutputs cfg s p ot d).sims q = { s.sims q with
      outputs := ((storeOutputs cfg s p ot d).sims q).outputs, data := ((storeOutputs cfg s p ot d).sims q).data,
      buffer := ((storeOutputs cfg s p ot d).sims q).buffer, ctr := ((storeOutputs cfg s p ot d).sims q).ctr } := by
  apply storeOutputs_ind cfg s p ot d (P := fun st => st.sims q = { s.sims q with
    outputs := (st.sims q).outputs, data := (st.sims q).data, buffer := (st.sims q).buffer, ctr := (st.sims q).ctr })
  · rfl
  · intro st h
    by_cases hq : q = p
    · subst hq
      rw [State.upd_same, h]
    · rw [State.upd_other _ _ hq]
      exact h
  · intro st e _ h
    rw [pushOne_sims, h]
  · intro st h
    by_cases hq : q = p
    · subst hq
      rw [State.upd_same, h]
    · rw [State.upd_other _ _ hq]
      exact h

theorem storeOutputs_state (cfg : Cfg) (s : State) (p : Sid) (ot : Int) (d : DataReply) :
    storeOutputs cfg s p ot d = { s with sims := (storeOutputs cfg s p ot d).sims } := by
  apply storeOutputs_ind cfg s p ot d (P := fun st => st = { s with sims := st.sims })
  · rfl
  · intro st h
    rw [h]
    rfl
  · intro st e _ h
    unfold pushOne
    split
    · exact h
    · rw [h]; rfl
  · intro st h
    rw [h]
    rfl

theorem storeOutputs_data (cfg : Cfg) (s : State) (p : Sid) (ot : Int) (d : DataReply) :
    ((storeOutputs cfg s p ot d).sims p).data = d.data := by
  rw [storeOutputs_eq, State.upd_same]

theorem storeOutputs_outputs (cfg : Cfg) (s : State) (p : Sid) (ot : Int) (d : DataReply) (q : Sid) :
    ((storeOutputs cfg s p ot d).sims q).outputs =
      if cfg.useCache = true ∧ q = p then cachePut (s.sims p).outputs ot d.data else (s.sims q).outputs := by
  have hpush : ∀ s2 : State, (((cfg.sim p).push.foldl (pushOne p ot d) s2).sims q).outputs = (s2.sims q).outputs := fun s2 =>
    foldl_inv (fun st => (st.sims q).outputs = (s2.sims q).outputs) _ _ _ rfl fun st e _ h => by rw [pushOne_sims, h]
  have hdata : ∀ s3 : State, ((s3.upd p fun x => { x with data := d.data }).sims q).outputs = (s3.sims q).outputs := fun s3 =>
    State.upd_keeps SimSt.outputs s3 p q fun _ => rfl
  rw [storeOutputs_eq, hdata, hpush]
  by_cases hc : cfg.useCache = true
  · rw [if_pos hc, State.upd_sims]
    by_cases hq : q = p
    · rw [if_pos hq, if_pos ⟨hc, hq⟩, hq]
    · rw [if_neg hq, if_neg fun h => hq h.2]
  · rw [if_neg hc, if_neg fun h => hc h.1]

theorem mem_insertBuf (e : BufEntry) : ∀ (l : List BufEntry) (x : BufEntry), x ∈ insertBuf e l ↔ x = e ∨ x ∈ l := by
  intro l x
  induction l with
  | nil => simp [insertBuf]
  | cons y ys ih =>
    unfold insertBuf
    split
    · simp
    · rw [List.mem_cons, ih, List.mem_cons]
      exact or_left_comm

theorem filter_insertBuf_of_neg (f : BufEntry → Bool) (e : BufEntry) (he : f e = false) :
    ∀ l : List BufEntry, (insertBuf e l).filter f = l.filter f := by
  intro l
  induction l with
  | nil => rw [insertBuf, List.filter_cons_of_neg (by rw [he]; exact Bool.false_ne_true)]
  | cons y ys ih =>
    unfold insertBuf
    split
    · rw [List.filter_cons_of_neg (by rw [he]; exact Bool.false_ne_true)]
    · rw [List.filter_cons, List.filter_cons, ih]

/-- the entry belongs to a pushed connection of `p` and carries the value of the reply `d` -/
def PushedBy (cfg : Cfg) (p q : Sid) (ot : Int) (d : DataReply) (e : BufEntry) : Prop :=
  ∃ pe ∈ (cfg.sim p).push, pe.2.1 = q ∧ OutData.get? d.data pe.1 = some e.val ∧
    e.key = { eid := pe.2.2.2.1, attr := pe.2.2.2.2, ssid := p, seid := pe.1.1 } ∧
    e.time = ot.toNat + tier pe.2.2.1.tiers 0

theorem storeOutputs_buffer_ind (cfg : Cfg) (s : State) (p : Sid) (ot : Int) (d : DataReply) (q : Sid)
    {P : List BufEntry → Prop} (h0 : P (s.sims q).buffer)
    (hins : ∀ l e, P l → PushedBy cfg p q ot d e → P (insertBuf e l)) :
    P ((storeOutputs cfg s p ot d).sims q).buffer := by
  apply storeOutputs_ind cfg s p ot d (P := fun st => P (st.sims q).buffer) h0
  · intro st h
    rw [State.upd_sims]
    split <;> exact h
  · intro st pe hpe h
    unfold pushOne
    split
    · exact h
    · rename_i v hv
      rw [State.upd_sims]
      split
      · rename_i hq
        exact hins _ _ h ⟨pe, hpe, hq.symm, hv, rfl, rfl⟩
      · exact h
  · intro st h
    rw [State.upd_sims]
    split <;> exact h

theorem getInputData_snd (cfg : Cfg) (s : State) (p : Sid) (c : TT) :
    (getInputData cfg s p c).2 = s.upd p fun x =>
      { x with setData := [], buffer := (bufferTake x.buffer (TT.time c) []).2,
               persistent := x.persistent.map fun e =>
                 match InputData.get? (stepInputs cfg s p c) e.1 with | some v => (e.1, v) | .none => e } := rfl

theorem getInputData_fst (cfg : Cfg) (s : State) (p : Sid) (c : TT) : (getInputData cfg s p c).1 = stepInputs cfg s p c := rfl

/-- `get_max_advance` takes the minimum of `until + 1`, the earliest unfinished step of every other triggering ancestor
delayed by the ancestor-table entry, and the earliest own scheduled step; the promise is one less, but not below the step -/
theorem maxAdvance_eq (cfg : Cfg) (s : State) (p : Sid) (c : TT) :
    ∃ L : List Nat, maxAdvance cfg s p c = max (L.foldl min (cfg.until_ + 1) - 1) (TT.time c) ∧
      (∀ ad ∈ (cfg.sim p).trigAnc, ad.1 ≠ p → ∀ f, front (s.sims ad.1) = some f → TT.time (TI.act f ad.2) ∈ L) ∧
      (∀ x, (s.sims p).next.head? = some x → TT.time x ∈ L) := by
  refine ⟨_, rfl, fun ad had hne f hf => List.mem_append_left _ ?_, fun x hx => List.mem_append_right _ ?_⟩
  · refine List.mem_filterMap.mpr ⟨ad, had, ?_⟩
    simp only [if_neg hne]
    unfold front at hf
    cases hcur : (s.sims ad.1).cur with
    | some ac => rw [hcur] at hf; cases hf; rfl
    | none => rw [hcur] at hf; simp only at hf ⊢; rw [hf]; rfl
  · rw [hx]
    exact List.mem_singleton.mpr rfl

theorem finish_nf {cfg : Cfg} {s : State} {p : Sid} {c : TT} (h : (finish cfg s p c).failed = none) :
    (advanceAll cfg (notify cfg (clearCur s p c) p)).failed = none ∧
    finish cfg s p c = settle cfg (if cfg.useCache then prune cfg (advanceAll cfg (notify cfg (clearCur s p c) p))
      else advanceAll cfg (notify cfg (clearCur s p c) p)) p :=
  ite_failed_nf h

theorem finish_sims_adv (cfg : Cfg) (s : State) (p : Sid) (c : TT) (q : Sid) :
    (finish cfg s p c).sims q = { (advanceAll cfg (notify cfg (clearCur s p c) p)).sims q with
      pc := ((finish cfg s p c).sims q).pc, outputs := ((finish cfg s p c).sims q).outputs } := by
  unfold finish
  simp only
  generalize advanceAll cfg (notify cfg (clearCur s p c) p) = st
  by_cases hf : st.failed.isSome = true
  · rw [if_pos hf]
  · rw [if_neg hf, settle_upd, State.upd_sims]
    by_cases hc : cfg.useCache = true
    · rw [if_pos hc, prune_sims]
      split <;> rfl
    · rw [if_neg hc]
      split <;> rfl

theorem finish_sims_notify (cfg : Cfg) (s : State) (p : Sid) (c : TT) (q : Sid) :
    (finish cfg s p c).sims q = { (notify cfg (clearCur s p c) p).sims q with
      pc := ((finish cfg s p c).sims q).pc, progress := ((finish cfg s p c).sims q).progress,
      outputs := ((finish cfg s p c).sims q).outputs } := by
  rw [finish_sims_adv, advanceAll_sims]

theorem finish_sims (cfg : Cfg) (s : State) (p : Sid) (c : TT) (q : Sid) :
    (finish cfg s p c).sims q = { s.sims q with
      pc := ((finish cfg s p c).sims q).pc, progress := ((finish cfg s p c).sims q).progress,
      next := ((finish cfg s p c).sims q).next, cur := ((finish cfg s p c).sims q).cur,
      newer := ((finish cfg s p c).sims q).newer, outputs := ((finish cfg s p c).sims q).outputs } := by
  rw [finish_sims_notify, notify_sims, clearCur_sims]

theorem finish_cur (cfg : Cfg) (s : State) (p : Sid) (c : TT) (q : Sid) :
    ((finish cfg s p c).sims q).cur = if q = p then none else (s.sims q).cur := by
  rw [finish_sims_notify, notify_sims, clearCur_upd, State.upd_sims]
  split <;> rfl

theorem afterStep_cases (cfg : Cfg) (s : State) (p : Sid) (c : TT) :
    ((rtCheck cfg s p c).failed ≠ none ∧ afterStep cfg s p c = rtCheck cfg s p c) ∨
    ((rtCheck cfg s p c).failed = none ∧ (cfg.sim p).outReq.isEmpty = true ∧
      afterStep cfg s p c = finish cfg (rtCheck cfg s p c) p c) ∨
    ((cfg.sim p).outReq.isEmpty = false ∧ afterStep cfg s p c = (rtCheck cfg s p c).upd p fun x => { x with pc := .inGet }) := by
  by_cases hf : (rtCheck cfg s p c).failed.isSome = true
  · exact Or.inl ⟨fun h => (by rw [h] at hf; cases hf), if_pos hf⟩
  · by_cases hempty : (cfg.sim p).outReq.isEmpty = true
    · exact Or.inr (Or.inl ⟨Option.not_isSome_iff_eq_none.mp hf, hempty, (if_neg hf).trans (if_pos hempty)⟩)
    · exact Or.inr (Or.inr ⟨(Bool.not_eq_true _).mp hempty, (if_neg hf).trans (if_neg hempty)⟩)

theorem afterStep_sims (cfg : Cfg) (s : State) (p : Sid) (c : TT) (q : Sid) :
    (afterStep cfg s p c).sims q = { s.sims q with
      pc := ((afterStep cfg s p c).sims q).pc, progress := ((afterStep cfg s p c).sims q).progress,
      next := ((afterStep cfg s p c).sims q).next, cur := ((afterStep cfg s p c).sims q).cur,
      newer := ((afterStep cfg s p c).sims q).newer, outputs := ((afterStep cfg s p c).sims q).outputs } := by
  rcases afterStep_cases cfg s p c with ⟨_, e⟩ | ⟨_, _, e⟩ | ⟨_, e⟩ <;> rw [e]
  · rw [rtCheck_sims]
  · rw [finish_sims, rtCheck_sims]
  · rw [State.upd_sims, rtCheck_sims]
    split <;> rfl

theorem afterStep_cur (cfg : Cfg) (s : State) (p : Sid) (c : TT) (q : Sid) :
    ((afterStep cfg s p c).sims q).cur = (s.sims q).cur ∨ ((afterStep cfg s p c).sims q).cur = none := by
  rcases afterStep_cases cfg s p c with ⟨_, e⟩ | ⟨_, _, e⟩ | ⟨_, e⟩ <;> rw [e]
  · rw [rtCheck_sims]
    exact Or.inl rfl
  · rw [finish_cur, rtCheck_sims]
    split
    · exact Or.inr rfl
    · exact Or.inl rfl
  · exact Or.inl (rtCheck_sims cfg s p c ▸ State.upd_keeps SimSt.cur _ p q fun _ => rfl)

/-- the state a `step` reply is validated in: `last_step` is set -/
def stepped (s : State) (p : Sid) (c : TT) : State := (s.upd p fun x => { x with last := some c }).emit (.stepped p c)

theorem stepped_sims (s : State) (p : Sid) (c : TT) (q : Sid) :
    (stepped s p c).sims q = { s.sims q with last := ((stepped s p c).sims q).last } := by
  rw [stepped, State.emit_sims, State.upd_sims]; split <;> rfl

/-- the state a valid `step` reply is processed in: the simulator's own next step is scheduled -/
def replied (cfg : Cfg) (s : State) (p : Sid) (c : TT) : StepReply → State
  | .int n => if n < (cfg.until_ : Int) then schedule (stepped s p c) p (ofWorld (cfg.sim p).depth n.toNat) else stepped s p c
  | _ => stepped s p c

/-- the reply to `step` is accepted -/
def validReply (cfg : Cfg) (p : Sid) (c : TT) : StepReply → Prop
  | .bad => False
  | .int n => (TT.time c : Int) < n
  | .none => (cfg.sim p).ty ≠ .timeBased

/-- why a `step` reply is rejected -/
def badReply (cfg : Cfg) (p : Sid) (c : TT) : StepReply → ReplyKind → Prop
  | .bad, k => k = .notInt
  | .int n, k => n ≤ (TT.time c : Int) ∧ k = .notLater
  | .none, k => (cfg.sim p).ty = .timeBased ∧ k = .noNextStep

theorem processStepReply_cases (cfg : Cfg) (s : State) (p : Sid) (c : TT) (r : StepReply) :
    (∃ k, badReply cfg p c r k ∧
      processStepReply cfg s p c r = (stepped s p c).fail (.badReply p k)) ∨
    (validReply cfg p c r ∧ processStepReply cfg s p c r = afterStep cfg (replied cfg s p c r) p c) := by
  cases r with
  | bad => exact Or.inl ⟨_, rfl, rfl⟩
  | none =>
    by_cases hty : (cfg.sim p).ty = .timeBased
    · exact Or.inl ⟨_, ⟨hty, rfl⟩, if_pos hty⟩
    · exact Or.inr ⟨hty, if_neg hty⟩
  | int n =>
    by_cases hle : n ≤ (TT.time c : Int)
    · exact Or.inl ⟨_, ⟨hle, rfl⟩, if_pos hle⟩
    · exact Or.inr ⟨Int.not_le.mp hle, (if_neg hle).trans (apply_ite (fun st => afterStep cfg st p c) _ _ _).symm⟩

theorem processStepReply_nf {cfg : Cfg} {s : State} {p : Sid} {c : TT} {r : StepReply}
    (h : (processStepReply cfg s p c r).failed = none) :
    validReply cfg p c r ∧ processStepReply cfg s p c r = afterStep cfg (replied cfg s p c r) p c := by
  rcases processStepReply_cases cfg s p c r with ⟨k, _, e⟩ | h'
  · rw [e] at h; exact absurd h (State.fail_ne_none _ _)
  · exact h'

theorem replied_cases (cfg : Cfg) (s : State) (p : Sid) (c : TT) (r : StepReply) :
    replied cfg s p c r = stepped s p c ∨
    ∃ n : Int, r = .int n ∧ n < (cfg.until_ : Int) ∧
      replied cfg s p c r = schedule (stepped s p c) p (ofWorld (cfg.sim p).depth n.toNat) := by
  cases r with
  | int n =>
    by_cases h : n < (cfg.until_ : Int)
    · exact Or.inr ⟨n, rfl, h, if_pos h⟩
    · exact Or.inl (if_neg h)
  | none => exact Or.inl rfl
  | bad => exact Or.inl rfl

theorem replied_sims (cfg : Cfg) (s : State) (p : Sid) (c : TT) (r : StepReply) (q : Sid) :
    (replied cfg s p c r).sims q = { s.sims q with
      last := ((replied cfg s p c r).sims q).last,
      next := ((replied cfg s p c r).sims q).next, newer := ((replied cfg s p c r).sims q).newer } := by
  rcases replied_cases cfg s p c r with e | ⟨_, _, _, e⟩ <;> rw [e]
  · rw [stepped_sims]
  · rw [schedule_sims, stepped_sims]

theorem replied_state (cfg : Cfg) (s : State) (p : Sid) (c : TT) (r : StepReply) :
    replied cfg s p c r = { s with sims := (replied cfg s p c r).sims, log := (replied cfg s p c r).log } := by
  rcases replied_cases cfg s p c r with e | ⟨_, _, _, e⟩ <;> rw [e]
  · rfl
  · rw [schedule_state]
    rfl

/-- the state the outputs of a `get_data` reply are stored in -/
def gotReply (s : State) (p : Sid) (c : TT) (d : DataReply) : State :=
  (s.upd p fun x => { x with outTime := (outTimeOf c d).2 }).emit (.got p c (outTimeOf c d).2 d.data)

theorem gotReply_sims (s : State) (p : Sid) (c : TT) (d : DataReply) (q : Sid) :
    (gotReply s p c d).sims q = { s.sims q with outTime := ((gotReply s p c d).sims q).outTime } := by
  rw [gotReply, State.emit_sims, State.upd_sims]; split <;> rfl

theorem processDataReply_cases (cfg : Cfg) (s : State) (p : Sid) (c : TT) (d : DataReply) :
    ((outTimeOf c d).1 < (TT.time c : Int) ∧
      processDataReply cfg s p c d = (gotReply s p c d).fail (.badReply p .outputTimeEarly)) ∨
    (¬ (TT.time c : Int) > (outTimeOf c d).1 ∧
      processDataReply cfg s p c d = finish cfg (storeOutputs cfg (gotReply s p c d) p (outTimeOf c d).1 d) p c) := by
  by_cases hot : (TT.time c : Int) > (outTimeOf c d).1
  · exact Or.inl ⟨hot, if_pos hot⟩
  · exact Or.inr ⟨hot, if_neg hot⟩

theorem processDataReply_nf {cfg : Cfg} {s : State} {p : Sid} {c : TT} {d : DataReply}
    (h : (processDataReply cfg s p c d).failed = none) :
    ¬ (TT.time c : Int) > (outTimeOf c d).1 ∧
    processDataReply cfg s p c d = finish cfg (storeOutputs cfg (gotReply s p c d) p (outTimeOf c d).1 d) p c := by
  rcases processDataReply_cases cfg s p c d with ⟨_, e⟩ | h'
  · rw [e] at h; exact absurd h (State.fail_ne_none _ _)
  · exact h'

/-- the action is the `get_data` reply `d` of `p` to its step `c` in flight, and the reply is accepted: the output time it
reports is not before the step (the second case of `processDataReply_cases`) -/
structure DataAccepted (cfg : Cfg) (s : State) (a : Action) (p : Sid) (d : DataReply) (c : TT) : Prop where
  action : a = .dataReply p d
  lt : p < cfg.n
  cur : (s.sims p).cur = some c
  time : ¬ (TT.time c : Int) > (outTimeOf c d).1

/-- the state in which the `step` request goes out -/
def begunState (cfg : Cfg) (s : State) (p : Sid) (c : TT) (rest : List TT) : State :=
  let s1 := s.upd p fun x => { x with cur := some c, next := rest }
  let s2 := (getInputData cfg s1 p c).2
  (s2.upd p fun x => { x with pc := .inStep, begun := c :: x.begun }).emit
    (.begin p c (getInputData cfg s1 p c).1 (maxAdvance cfg s2 p c))

theorem begunState_log (cfg : Cfg) (s : State) (p : Sid) (c : TT) (rest : List TT) :
    ∃ m, (begunState cfg s p c rest).log =
      .begin p c (stepInputs cfg (s.upd p fun x => { x with cur := some c, next := rest }) p c) m :: s.log := ⟨_, rfl⟩

theorem beginStep_cases (cfg : Cfg) (s : State) (p : Sid) (c : TT) (rest : List TT) :
    (∃ e, (c ≠ (s.sims p).progress ∧ e = .stepInPast p ∨
        c = (s.sims p).progress ∧ (c.tail.any fun k => decide (k ≥ cfg.maxLoop)) = true ∧ e = .loop p) ∧
      beginStep cfg s p c rest = (s.upd p fun x => { x with cur := some c, next := rest }).fail e) ∨
    (c = (s.sims p).progress ∧ (c.tail.any fun k => decide (k ≥ cfg.maxLoop)) = false ∧
      beginStep cfg s p c rest = begunState cfg s p c rest) := by
  by_cases h1 : c ≠ (s.sims p).progress
  · exact Or.inl ⟨_, Or.inl ⟨h1, rfl⟩, if_pos h1⟩
  · by_cases h2 : (c.tail.any fun k => decide (k ≥ cfg.maxLoop)) = true
    · exact Or.inl ⟨_, Or.inr ⟨Decidable.of_not_not h1, h2, rfl⟩, (if_neg h1).trans (if_pos h2)⟩
    · exact Or.inr ⟨Decidable.of_not_not h1, (Bool.not_eq_true _).mp h2, (if_neg h1).trans (if_neg h2)⟩

theorem beginStep_nf {cfg : Cfg} {s : State} {p : Sid} {c : TT} {rest : List TT}
    (h : (beginStep cfg s p c rest).failed = none) :
    c = (s.sims p).progress ∧ (c.tail.any fun k => decide (k ≥ cfg.maxLoop)) = false ∧
    beginStep cfg s p c rest = begunState cfg s p c rest := by
  rcases beginStep_cases cfg s p c rest with ⟨_, _, e⟩ | h'
  · rw [e] at h; exact absurd h (State.fail_ne_none _ _)
  · exact h'

theorem begunState_other (cfg : Cfg) (s : State) (p : Sid) (c : TT) (rest : List TT) {q : Sid} (hqp : q ≠ p) :
    (begunState cfg s p c rest).sims q = s.sims q := by
  unfold begunState
  rw [State.emit_sims, State.upd_other _ _ hqp, getInputData_snd, State.upd_other _ _ hqp, State.upd_other _ _ hqp]

theorem beginStep_other (cfg : Cfg) (s : State) (p : Sid) (c : TT) (rest : List TT) {q : Sid} (hqp : q ≠ p) :
    (beginStep cfg s p c rest).sims q = s.sims q := by
  rcases beginStep_cases cfg s p c rest with ⟨_, _, e⟩ | ⟨_, _, e⟩ <;> rw [e]
  · rw [State.fail_sims]
    exact State.upd_other _ _ hqp
  · exact begunState_other cfg s p c rest hqp

theorem begunState_same (cfg : Cfg) (s : State) (p : Sid) (c : TT) (rest : List TT) :
    (begunState cfg s p c rest).sims p = { s.sims p with
      pc := .inStep, cur := some c, next := rest, begun := c :: (s.sims p).begun,
      setData := [], buffer := (bufferTake (s.sims p).buffer (TT.time c) []).2,
      persistent := ((begunState cfg s p c rest).sims p).persistent } := by
  unfold begunState
  simp only [State.emit_sims, State.upd_same, getInputData_snd]

theorem beginStep_popped (cfg : Cfg) (s : State) (p : Sid) (c : TT) (rest : List TT) :
    ((beginStep cfg s p c rest).sims p).next = rest ∧ ((beginStep cfg s p c rest).sims p).cur = some c := by
  rcases beginStep_cases cfg s p c rest with ⟨_, _, e⟩ | ⟨_, _, e⟩ <;> rw [e]
  · rw [State.fail_sims, State.upd_same]
    exact ⟨rfl, rfl⟩
  · rw [begunState_same]
    exact ⟨rfl, rfl⟩

/-- the state in which a woken process re-evaluates its next step: `newer_step` is cleared and, in real-time mode, the
progress advanced -/
def woken (cfg : Cfg) (s : State) (p : Sid) : State :=
  if cfg.rt.isSome then advance cfg (s.upd p fun x => { x with newer := false }) p else s.upd p fun x => { x with newer := false }

theorem woken_other (cfg : Cfg) (s : State) {p q : Sid} (h : q ≠ p) : (woken cfg s p).sims q = s.sims q := by
  unfold woken
  split
  · rw [advance_other _ _ h, State.upd_other _ _ h]
  · exact State.upd_other _ _ h

theorem woken_sims (cfg : Cfg) (s : State) (p q : Sid) :
    (woken cfg s p).sims q = { s.sims q with
      progress := ((woken cfg s p).sims q).progress, newer := ((woken cfg s p).sims q).newer } := by
  by_cases hq : q = p
  · subst hq
    unfold woken
    split
    · rw [advance_sims, State.upd_same]
    · rw [State.upd_same]
  · rw [woken_other _ _ hq]

theorem woken_state (cfg : Cfg) (s : State) (p : Sid) :
    woken cfg s p = { s with sims := (woken cfg s p).sims, failed := (woken cfg s p).failed } := by
  unfold woken
  split
  · exact advance_state cfg _ p
  · rfl

theorem woken_of_noRt {cfg : Cfg} (h : cfg.rt = none) (s : State) (p : Sid) :
    woken cfg s p = s.upd p fun x => { x with newer := false } :=
  if_neg (by rw [h]; exact Bool.false_ne_true)

/-- `step` read as a relation.  The states on the way:
`start`: `advance`, then `settled`; `wake`: `woken`, then `settled`; `deps`: `beginStep` (`begunState` unless it fails);
`stepReply`: `processStepReply` = `stepped`, `replied`, then `afterStep` = `rtCheck`, then `finish` or `pc := inGet`;
`dataReply`: `processDataReply` = `gotReply`, `storeOutputs`, `finish`; `finish` = `clearCur`, `notify`, `advanceAll`, `prune`, `settle`. -/
inductive Fires (cfg : Cfg) (s : State) : Action → State → Prop
  | start (p : Sid) (hf : s.failed = none) (hp : p < cfg.n) (hpc : (s.sims p).pc = .init) :
      Fires cfg s (.start p) (settled cfg (advance cfg s p) p)
  | wake (p : Sid) (a : TT) (dl : Option Nat) (hf : s.failed = none) (hp : p < cfg.n) (hpc : (s.sims p).pc = .awaitSettle a dl)
      (hwake : a ≤ (s.sims p).progress ∨ (s.sims p).newer = true ∨ timedOut dl s.clock = true) :
      Fires cfg s (.wake p) (settled cfg (woken cfg s p) p)
  /-- `t` is the awaited step (from the program counter), `c` the head of the schedule: equal where `PcOk.waiting` holds -/
  | deps (p : Sid) (t c : TT) (rest : List TT) (hf : s.failed = none) (hp : p < cfg.n) (hpc : (s.sims p).pc = .waitDeps t)
      (hready : depsReady cfg s p t = true) (hnext : (s.sims p).next = c :: rest) :
      Fires cfg s (.deps p) (beginStep cfg s p c rest)
  | setDataRefused (p target : Sid) (entries : InputData) (hf : s.failed = none) (hp : p < cfg.n)
      (hpc : (s.sims p).pc = .inStep) (hno : asyncAllowed cfg p target = false) :
      Fires cfg s (.setData p target entries) (s.fail (.asyncRefused p))
  | setData (p target : Sid) (entries : InputData) (hf : s.failed = none) (hp : p < cfg.n)
      (hpc : (s.sims p).pc = .inStep) (hok : asyncAllowed cfg p target = true) :
      Fires cfg s (.setData p target entries)
        (s.upd target fun x => { x with setData := entries.foldl (fun acc e => InputData.set acc e.1 e.2) x.setData })
  | getDataRefused (p target : Sid) (hf : s.failed = none) (hp : p < cfg.n)
      (hpc : (s.sims p).pc = .inStep) (hno : asyncAllowed cfg p target = false) :
      Fires cfg s (.getDataReq p target) (s.fail (.asyncRefused p))
  | getData (p target : Sid) (hf : s.failed = none) (hp : p < cfg.n)
      (hpc : (s.sims p).pc = .inStep) (hok : asyncAllowed cfg p target = true) :
      Fires cfg s (.getDataReq p target) s
  | eventNotRt (p : Sid) (t : Nat) (hf : s.failed = none) (hp : p < cfg.n) (hrt : cfg.rt = none) :
      Fires cfg s (.setEvent p t) (s.fail (.eventNotRt p))
  | setEvent (p : Sid) (t : Nat) (hf : s.failed = none) (hp : p < cfg.n) (hrt : cfg.rt.isSome = true) (ht : t < cfg.until_) :
      Fires cfg s (.setEvent p t) (schedule s p (ofWorld (cfg.sim p).depth t))
  | eventIgnored (p : Sid) (t : Nat) (hf : s.failed = none) (hp : p < cfg.n) (hrt : cfg.rt.isSome = true) (ht : ¬ t < cfg.until_) :
      Fires cfg s (.setEvent p t) (s.emit (.eventIgnored p))
  | stepReply (p : Sid) (r : StepReply) (c : TT) (hf : s.failed = none) (hp : p < cfg.n) (hpc : (s.sims p).pc = .inStep)
      (hcur : (s.sims p).cur = some c) :
      Fires cfg s (.stepReply p r) (processStepReply cfg s p c r)
  | dataReply (p : Sid) (d : DataReply) (c : TT) (hf : s.failed = none) (hp : p < cfg.n) (hpc : (s.sims p).pc = .inGet)
      (hcur : (s.sims p).cur = some c) :
      Fires cfg s (.dataReply p d) (processDataReply cfg s p c d)
  | tick (n : Nat) (hf : s.failed = none) (hrt : cfg.rt.isSome = true) :
      Fires cfg s (.tick n) { s with clock := s.clock + n }

theorem live_iff {cfg : Cfg} {s : State} {p : Sid} : live cfg s p = true ↔ s.failed = none ∧ p < cfg.n := by
  simp [live]

theorem of_guard {g : Prop} [Decidable g] {x : Option State} {s' : State} (h : (if g then x else none) = some s') :
    g ∧ x = some s' := by
  split at h
  · exact ⟨‹g›, h⟩
  · cases h

theorem live_pc {cfg : Cfg} {s : State} {p : Sid} {k : PC} (h : (live cfg s p && (s.sims p).pc == k) = true) :
    s.failed = none ∧ p < cfg.n ∧ (s.sims p).pc = k := by
  rw [Bool.and_eq_true, live_iff, beq_iff_eq] at h
  exact ⟨h.1.1, h.1.2, h.2⟩

theorem step_fires {cfg : Cfg} {s s' : State} {a : Action} (h : step cfg s a = some s') : Fires cfg s a s' := by
  cases a with
  | start p =>
    obtain ⟨hg, h⟩ := of_guard (show stepStart cfg s p = some s' from h)
    obtain ⟨hf, hp, hpc⟩ := live_pc hg
    rw [← apply_ite some] at h
    obtain rfl := Option.some.inj h
    exact .start p hf hp hpc
  | wake p =>
    obtain ⟨hl, h⟩ := of_guard (show stepWake cfg s p = some s' from h)
    obtain ⟨hf, hp⟩ := live_iff.mp hl
    split at h
    · rename_i a dl hpc
      obtain ⟨hw, h⟩ := of_guard h
      rw [← apply_ite some] at h
      obtain rfl := Option.some.inj h
      exact .wake p a dl hf hp hpc hw
    · cases h
  | deps p =>
    obtain ⟨hl, h⟩ := of_guard (show stepDeps cfg s p = some s' from h)
    obtain ⟨hf, hp⟩ := live_iff.mp hl
    split at h
    · rename_i t hpc
      obtain ⟨hr, h⟩ := of_guard h
      split at h
      · cases h
      · rename_i c rest hnext
        obtain rfl := Option.some.inj h
        exact .deps p t c rest hf hp hpc hr hnext
    · cases h
  | setData p target entries =>
    obtain ⟨hg, h⟩ := of_guard (show stepSetData cfg s p target entries = some s' from h)
    obtain ⟨hf, hp, hpc⟩ := live_pc hg
    cases hok : asyncAllowed cfg p target <;> rw [hok] at h <;> obtain rfl := Option.some.inj h
    · exact .setDataRefused p target entries hf hp hpc hok
    · exact .setData p target entries hf hp hpc hok
  | getDataReq p target =>
    obtain ⟨hg, h⟩ := of_guard (show stepGetDataReq cfg s p target = some s' from h)
    obtain ⟨hf, hp, hpc⟩ := live_pc hg
    cases hok : asyncAllowed cfg p target <;> rw [hok] at h <;> obtain rfl := Option.some.inj h
    · exact .getDataRefused p target hf hp hpc hok
    · exact .getData p target hf hp hpc hok
  | setEvent p t =>
    obtain ⟨hl, h⟩ := of_guard (show stepSetEvent cfg s p t = some s' from h)
    obtain ⟨hf, hp⟩ := live_iff.mp hl
    cases hrt : cfg.rt with
    | none =>
      rw [hrt] at h
      obtain rfl := Option.some.inj h
      exact .eventNotRt p t hf hp hrt
    | some f =>
      have hrt' : cfg.rt.isSome = true := by rw [hrt]; rfl
      rw [hrt, if_neg (by simp)] at h
      by_cases ht : t < cfg.until_
      · rw [if_pos ht] at h
        obtain rfl := Option.some.inj h
        exact .setEvent p t hf hp hrt' ht
      · rw [if_neg ht] at h
        obtain rfl := Option.some.inj h
        exact .eventIgnored p t hf hp hrt' ht
  | stepReply p r =>
    obtain ⟨hg, h⟩ := of_guard (show stepStepReply cfg s p r = some s' from h)
    obtain ⟨hf, hp, hpc⟩ := live_pc hg
    split at h
    · cases h
    · rename_i c hcur
      obtain rfl := Option.some.inj h
      exact .stepReply p r c hf hp hpc hcur
  | dataReply p d =>
    obtain ⟨hg, h⟩ := of_guard (show stepDataReply cfg s p d = some s' from h)
    obtain ⟨hf, hp, hpc⟩ := live_pc hg
    split at h
    · cases h
    · rename_i c hcur
      obtain rfl := Option.some.inj h
      exact .dataReply p d c hf hp hpc hcur
  | tick n =>
    have h : stepTick cfg s n = some s' := h
    unfold stepTick at h
    by_cases hg : s.failed.isSome = true ∨ cfg.rt.isNone = true
    · rw [if_pos hg] at h; cases h
    · rw [if_neg hg] at h
      obtain rfl := Option.some.inj h
      rw [not_or, Option.not_isSome_iff_eq_none, Bool.not_eq_true, Option.isNone_eq_false_iff] at hg
      exact .tick n hg.1 hg.2

theorem Fires.not_failed {cfg : Cfg} {s s' : State} {a : Action} (h : Fires cfg s a s') : s.failed = none := by
  cases h <;> assumption

theorem live_pc_of {cfg : Cfg} {s : State} {p : Sid} {k : PC} (hf : s.failed = none) (hp : p < cfg.n) (hpc : (s.sims p).pc = k) :
    (live cfg s p && (s.sims p).pc == k) = true := by
  rw [live_iff.mpr ⟨hf, hp⟩, hpc]
  exact beq_self_eq_true k

theorem Fires.step {cfg : Cfg} {s s' : State} {a : Action} (h : Fires cfg s a s') : step cfg s a = some s' := by
  cases h with
  | start p hf hp hpc =>
    show stepStart cfg s p = _
    unfold stepStart
    rw [if_pos (live_pc_of hf hp hpc), ← apply_ite some]
    rfl
  | wake p a dl hf hp hpc hwake =>
    show stepWake cfg s p = _
    unfold stepWake
    rw [if_pos (live_iff.mpr ⟨hf, hp⟩), hpc]
    simp only
    rw [if_pos hwake, ← apply_ite some]
    rfl
  | deps p t c rest hf hp hpc hready hnext =>
    show stepDeps cfg s p = _
    unfold stepDeps
    rw [if_pos (live_iff.mpr ⟨hf, hp⟩), hpc]
    simp only
    rw [if_pos hready, hnext]
  | setDataRefused p target entries hf hp hpc hno =>
    show stepSetData cfg s p target entries = _
    unfold stepSetData
    rw [if_pos (live_pc_of hf hp hpc), hno]
    rfl
  | setData p target entries hf hp hpc hok =>
    show stepSetData cfg s p target entries = _
    unfold stepSetData
    rw [if_pos (live_pc_of hf hp hpc), hok]
    rfl
  | getDataRefused p target hf hp hpc hno =>
    show stepGetDataReq cfg s p target = _
    unfold stepGetDataReq
    rw [if_pos (live_pc_of hf hp hpc), hno]
    rfl
  | getData p target hf hp hpc hok =>
    show stepGetDataReq cfg s p target = _
    unfold stepGetDataReq
    rw [if_pos (live_pc_of hf hp hpc), hok]
    rfl
  | eventNotRt p t hf hp hrt =>
    show stepSetEvent cfg s p t = _
    unfold stepSetEvent
    rw [if_pos (live_iff.mpr ⟨hf, hp⟩), hrt]
    rfl
  | setEvent p t hf hp hrt ht =>
    show stepSetEvent cfg s p t = _
    unfold stepSetEvent
    rw [if_pos (live_iff.mpr ⟨hf, hp⟩), if_neg (by rw [Option.isNone_eq_false_iff.mpr hrt]; exact Bool.false_ne_true), if_pos ht]
  | eventIgnored p t hf hp hrt ht =>
    show stepSetEvent cfg s p t = _
    unfold stepSetEvent
    rw [if_pos (live_iff.mpr ⟨hf, hp⟩), if_neg (by rw [Option.isNone_eq_false_iff.mpr hrt]; exact Bool.false_ne_true), if_neg ht]
  | stepReply p r c hf hp hpc hcur =>
    show stepStepReply cfg s p r = _
    unfold stepStepReply
    rw [if_pos (live_pc_of hf hp hpc), hcur]
  | dataReply p d c hf hp hpc hcur =>
    show stepDataReply cfg s p d = _
    unfold stepDataReply
    rw [if_pos (live_pc_of hf hp hpc), hcur]
  | tick n hf hrt =>
    show stepTick cfg s n = _
    unfold stepTick
    rw [if_neg]
    rw [hf, Option.isNone_eq_false_iff.mpr hrt]
    simp

theorem step_iff_fires {cfg : Cfg} {s s' : State} {a : Action} : step cfg s a = some s' ↔ Fires cfg s a s' :=
  ⟨step_fires, Fires.step⟩

theorem wake_enabled_iff {cfg : Cfg} {s : State} {p : Sid} : (step cfg s (.wake p)).isSome = true ↔
    (s.failed = none ∧ p < cfg.n) ∧ ∃ a dl, (s.sims p).pc = .awaitSettle a dl ∧
      (a ≤ (s.sims p).progress ∨ (s.sims p).newer = true ∨ timedOut dl s.clock = true) := by
  constructor
  · intro h
    obtain ⟨s', hs'⟩ := Option.isSome_iff_exists.mp h
    cases step_fires hs' with
    | wake _ a dl hf hp hpc hwake => exact ⟨⟨hf, hp⟩, a, dl, hpc, hwake⟩
  · rintro ⟨⟨hf, hp⟩, a, dl, hpc, hc⟩
    rw [(Fires.wake _ a dl hf hp hpc hc).step]
    rfl

end Mosaik
