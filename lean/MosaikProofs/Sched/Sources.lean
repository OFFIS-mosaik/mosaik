/-
Where scheduled steps and steps in flight come from.

What one action does to a simulator's `next_steps` and `current_step` (`step_sched`): every element of `next_steps`
afterwards was there before, or is the simulator's own returned next step, or the delayed output time of an output that a
simulator finishing its step delivered to one of its trigger connections, or (real-time mode only) the time of a `set_event`
(`step_sources`); what was there stays unless it begins; the step in flight was in flight before or was the earliest
scheduled one (`step_cur_sources`).  Unconditional: no invariant is needed.  It rests on the description of `next_steps`
after the blocks that end a step (`mem_replied_next`, `mem_finish_next`, `mem_afterStep_next`).  Used for C02 (no spurious
steps, completeness) and C07 (run form of the promise).
-/
import MosaikProofs.Sched.Blocks
namespace Mosaik

/-- the simulator's own returned next step -/
def SelfSrc (cfg : Cfg) (s : State) (a : Action) (b : Sid) (x : TT) : Prop :=
  ∃ (n : Int) (c : TT), a = .stepReply b (.int n) ∧ (s.sims b).cur = some c ∧ (TT.time c : Int) < n ∧
    n < (cfg.until_ : Int) ∧ x = ofWorld (cfg.sim b).depth n.toNat

/-- the delayed output time of an output of `q`'s step `c` delivered to a trigger connection `q → b`.  The second case
(a step reply of a simulator whose outputs nobody requested: the model notifies with the data it still holds) cannot occur under
`WFCfg.trigReq`: such a simulator has no trigger connection. -/
def TrigSrc (cfg : Cfg) (s : State) (a : Action) (b : Sid) (x : TT) : Prop :=
  ∃ (q : Sid) (c : TT) (tr : Port × Sid × TI) (data : OutData) (outT : TT),
    q < cfg.n ∧ (s.sims q).cur = some c ∧ tr ∈ (cfg.sim q).triggers ∧ tr.2.1 = b ∧ OutData.has data tr.1 = true ∧
    x = TI.act outT tr.2.2 ∧
    ((∃ d, a = .dataReply q d ∧ data = d.data ∧ outT = (outTimeOf c d).2 ∧ ¬ (TT.time c : Int) > (outTimeOf c d).1) ∨
     (∃ r, a = .stepReply q r ∧ (cfg.sim q).outReq.isEmpty = true ∧ data = (s.sims q).data ∧ outT = (s.sims q).outTime))

theorem mem_replied_next (cfg : Cfg) (s : State) (p : Sid) (c : TT) (r : StepReply) (b : Sid) (x : TT) :
    x ∈ ((replied cfg s p c r).sims b).next ↔ x ∈ (s.sims b).next ∨
      (b = p ∧ ∃ n : Int, r = .int n ∧ n < (cfg.until_ : Int) ∧ x = ofWorld (cfg.sim p).depth n.toNat) := by
  have h1 : ((stepped s p c).sims b).next = (s.sims b).next := by rw [stepped_sims]
  by_cases hr : ∃ n : Int, r = .int n ∧ n < (cfg.until_ : Int)
  · obtain ⟨n, rfl, hlt⟩ := hr
    have e : replied cfg s p c (.int n) = schedule (stepped s p c) p (ofWorld (cfg.sim p).depth n.toNat) := if_pos hlt
    rw [e, mem_next_schedule, h1]
    constructor
    · rintro (⟨hb, hx⟩ | h)
      · exact Or.inr ⟨hb, n, rfl, hlt, hx⟩
      · exact Or.inl h
    · rintro (h | ⟨hb, _, hn, _, hx⟩)
      · exact Or.inr h
      · cases hn
        exact Or.inl ⟨hb, hx⟩
  · have e : replied cfg s p c r = stepped s p c :=
      (replied_cases cfg s p c r).resolve_right fun ⟨n, hn, hlt, _⟩ => hr ⟨n, hn, hlt⟩
    rw [e, h1]
    exact ⟨Or.inl, fun h => h.elim id fun ⟨_, n, hn, hlt, _⟩ => absurd ⟨n, hn, hlt⟩ hr⟩

theorem mem_finish_next (cfg : Cfg) (s : State) (p : Sid) (c : TT) (b : Sid) (x : TT) :
    x ∈ ((finish cfg s p c).sims b).next ↔ x ∈ (s.sims b).next ∨
      ∃ tr ∈ (cfg.sim p).triggers, tr.2.1 = b ∧ OutData.has (s.sims p).data tr.1 = true ∧ x = TI.act (s.sims p).outTime tr.2.2 := by
  rw [finish_sims_notify]
  refine (mem_notify_next cfg (clearCur s p c) p b x).trans ?_
  rw [clearCur_sims s p c b, clearCur_sims s p c p]

theorem mem_afterStep_next (cfg : Cfg) (s : State) (p : Sid) (c : TT) (b : Sid) (x : TT) :
    x ∈ ((afterStep cfg s p c).sims b).next ↔ x ∈ (s.sims b).next ∨
      ((rtCheck cfg s p c).failed = none ∧ (cfg.sim p).outReq.isEmpty = true ∧
        ∃ tr ∈ (cfg.sim p).triggers, tr.2.1 = b ∧ OutData.has (s.sims p).data tr.1 = true ∧
          x = TI.act (s.sims p).outTime tr.2.2) := by
  rcases afterStep_cases cfg s p c with ⟨hf, e⟩ | ⟨hf, hempty, e⟩ | ⟨hempty, e⟩ <;> rw [e]
  · rw [rtCheck_sims]
    exact ⟨Or.inl, fun h => h.elim id fun h => absurd h.1 hf⟩
  · rw [mem_finish_next, rtCheck_sims]
    simp only [hf, hempty, true_and]
  · have e1 : (((rtCheck cfg s p c).upd p fun y => { y with pc := .inGet }).sims b).next = (s.sims b).next :=
      rtCheck_sims cfg s p c ▸ State.upd_keeps SimSt.next _ p b fun _ => rfl
    rw [e1]
    exact ⟨Or.inl, fun h => h.elim id fun h => by rw [hempty] at h; cases h.2.1⟩

/-- the fields of a simulator that say which steps are scheduled and which is in flight -/
abbrev SimSt.sched (x : SimSt) : List TT × Option TT := (x.next, x.cur)

/-- what an action from `s` to `s'` does to the schedule and the step in flight of `b` -/
structure SchedStep (cfg : Cfg) (s : State) (a : Action) (s' : State) (b : Sid) : Prop where
  sources : ∀ x, x ∈ (s'.sims b).next → x ∈ (s.sims b).next ∨ SelfSrc cfg s a b x ∨ TrigSrc cfg s a b x ∨
    (∃ t, a = .setEvent b t ∧ cfg.rt.isSome)
  keeps : ∀ x, x ∈ (s.sims b).next → x ∈ (s'.sims b).next ∨ (a = .deps b ∧ (s.sims b).next.head? = some x)
  cur : ∀ c, (s'.sims b).cur = some c → (s.sims b).cur = some c ∨ (s.sims b).next.head? = some c

theorem SchedStep.same {cfg : Cfg} {s s' : State} {a : Action} {b : Sid} (h : (s'.sims b).sched = (s.sims b).sched) :
    SchedStep cfg s a s' b := by
  simp only [SimSt.sched, Prod.mk.injEq] at h
  obtain ⟨hn, hc⟩ := h
  constructor <;> intro x hx
  · rw [hn] at hx; exact Or.inl hx
  · rw [hn]; exact Or.inl hx
  · rw [hc] at hx; exact Or.inl hx

theorem step_sched {cfg : Cfg} {s s' : State} {a : Action} (h : step cfg s a = some s') (b : Sid) : SchedStep cfg s a s' b := by
  cases step_fires h with
  | start p => exact .same (by rw [settled_sims, advance_sims])
  | wake p => exact .same (by rw [settled_sims, woken_sims])
  | deps p _ c rest _ _ _ _ hnext =>
    by_cases hbp : b = p
    · subst hbp
      obtain ⟨e1, e2⟩ := beginStep_popped cfg s b c rest
      refine ⟨fun x hx => Or.inl ?_, fun x hx => ?_, fun c' hc' => Or.inr ?_⟩
      · rw [e1] at hx
        rw [hnext]
        exact List.mem_cons_of_mem _ hx
      · rw [hnext] at hx ⊢
        rw [e1]
        rcases List.mem_cons.mp hx with rfl | hx
        · exact Or.inr ⟨rfl, rfl⟩
        · exact Or.inl hx
      · rw [e2] at hc'
        rw [hnext, ← hc']
        rfl
    · exact .same (by rw [beginStep_other cfg s p c rest hbp])
  | setDataRefused | getDataRefused | eventNotRt => exact .same (by rw [State.fail_sims])
  | setData p target => exact .same (State.upd_keeps SimSt.sched s target b fun _ => rfl)
  | getData => exact .same rfl
  | setEvent p t _ _ hrt =>
    refine ⟨fun x hx => ?_, fun x hx => Or.inl ?_, fun c hc => Or.inl ?_⟩
    · rcases (mem_next_schedule _ _ _ _ _).mp hx with ⟨hb, _⟩ | h0
      · subst hb
        exact Or.inr (Or.inr (Or.inr ⟨t, rfl, hrt⟩))
      · exact Or.inl h0
    · exact (mem_next_schedule _ _ _ _ _).mpr (Or.inr hx)
    · rw [schedule_sims] at hc
      exact hc
  | eventIgnored => exact .same rfl
  | stepReply p r c _ hp _ hcur =>
    rcases processStepReply_cases cfg s p c r with ⟨k, _, e⟩ | ⟨hv, e⟩ <;> rw [e]
    · exact .same (by rw [State.fail_sims, stepped_sims])
    · refine ⟨fun x hx => ?_, fun x hx => Or.inl ?_, fun c' hc' => Or.inl ?_⟩
      · rcases (mem_afterStep_next _ _ _ _ _ _).mp hx with h1 | ⟨_, hempty, tr, htr, hb, hhas, hxe⟩
        · rcases (mem_replied_next _ _ _ _ _ _ _).mp h1 with h0 | ⟨hb, n, hr, hlt, hxe⟩
          · exact Or.inl h0
          · subst hb hr
            exact Or.inr (Or.inl ⟨n, c, rfl, hcur, hv, hlt, hxe⟩)
        · rw [replied_sims] at hhas hxe
          exact Or.inr (Or.inr (Or.inl ⟨p, c, tr, (s.sims p).data, (s.sims p).outTime, hp, hcur, htr, hb, hhas, hxe,
            Or.inr ⟨r, rfl, hempty, rfl, rfl⟩⟩))
      · exact (mem_afterStep_next _ _ _ _ _ _).mpr (Or.inl ((mem_replied_next _ _ _ _ _ _ _).mpr (Or.inl hx)))
      · rcases afterStep_cur cfg (replied cfg s p c r) p c b with e | e <;> rw [e] at hc'
        · rw [replied_sims] at hc'
          exact hc'
        · cases hc'
  | dataReply p d c _ hp _ hcur =>
    rcases processDataReply_cases cfg s p c d with ⟨_, e⟩ | ⟨hot, e⟩ <;> rw [e]
    · exact .same (by rw [State.fail_sims, gotReply_sims])
    · refine ⟨fun x hx => ?_, fun x hx => Or.inl ?_, fun c' hc' => Or.inl ?_⟩
      · rcases (mem_finish_next _ _ _ _ _ _).mp hx with h0 | ⟨tr, htr, hb, hhas, hxe⟩
        · rw [storeOutputs_sims, gotReply_sims] at h0
          exact Or.inl h0
        · rw [storeOutputs_data] at hhas
          rw [storeOutputs_sims, gotReply, State.emit_sims, State.upd_same] at hxe
          exact Or.inr (Or.inr (Or.inl ⟨p, c, tr, d.data, (outTimeOf c d).2, hp, hcur, htr, hb, hhas, hxe,
            Or.inl ⟨d, rfl, rfl, rfl, hot⟩⟩))
      · refine (mem_finish_next _ _ _ _ _ _).mpr (Or.inl ?_)
        rw [storeOutputs_sims, gotReply_sims]
        exact hx
      · rw [finish_cur] at hc'
        split at hc'
        · cases hc'
        · rw [storeOutputs_sims, gotReply_sims] at hc'
          exact hc'
  | tick => exact .same rfl

theorem step_sources {cfg : Cfg} {s s' : State} {a : Action} (h : step cfg s a = some s') :
    ∀ b x, x ∈ (s'.sims b).next → x ∈ (s.sims b).next ∨ SelfSrc cfg s a b x ∨ TrigSrc cfg s a b x ∨
      (∃ t, a = .setEvent b t ∧ cfg.rt.isSome) :=
  fun b => (step_sched h b).sources

theorem step_cur_sources {cfg : Cfg} {s s' : State} {a : Action} (h : step cfg s a = some s') :
    ∀ b c, (s'.sims b).cur = some c → (s.sims b).cur = some c ∨ (s.sims b).next.head? = some c :=
  fun b => (step_sched h b).cur

end Mosaik
