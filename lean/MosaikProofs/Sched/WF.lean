/-
The executable configuration check `Cfg.wfB` (evaluated by the driver on every scenario of the
correspondence runs) implies the hypotheses `WFCfg` of the scheduler theorems.
-/
import MosaikModel.WF
import MosaikProofs.Sched.Inv
namespace Mosaik

theorem TI.leB_sound {a b : TI} (h : TI.leB a b = true) : TI.le a b := by
  simp only [TI.leB, Bool.and_eq_true, beq_iff_eq, decide_eq_true_eq] at h
  exact ⟨h.1.1.1, h.1.1.2, h.1.2, h.2⟩

theorem Cfg.sim_of_ge {cfg : Cfg} {p : Sid} (h : cfg.n ≤ p) : cfg.sim p = {} :=
  getD_of_ge _ h

theorem exists_le_of_any {l : List (Sid × TI)} {p : Sid} {d : TI} (h : l.any (fun qd => qd.1 == p && TI.leB qd.2 d) = true) :
    ∃ d0, (p, d0) ∈ l ∧ TI.le d0 d := by
  simp only [List.any_eq_true, Bool.and_eq_true, beq_iff_eq] at h
  obtain ⟨⟨q, d0⟩, hqd, rfl, hle⟩ := h
  exact ⟨d0, hqd, TI.leB_sound hle⟩

theorem wfB_sound {cfg : Cfg} (h : cfg.wfB = true) : WFCfg cfg := by
  simp only [Cfg.wfB, Bool.and_eq_true, List.all_eq_true, List.mem_range] at h
  obtain ⟨hrt, hall⟩ := h
  -- `wfSim p` as propositions: one conjunct for each line of its definition, in that order
  have hsim := fun p hp => by
    have := hall p hp
    simp only [Cfg.wfSim, Bool.and_eq_true, List.all_eq_true, decide_eq_true_eq, Bool.or_eq_true, Bool.not_eq_true',
      List.mem_range, and_assoc] at this
    exact this
  constructor
  case noRt => exact Option.isNone_iff_eq_none.mp hrt
  all_goals
    intro p hp
    obtain ⟨hdepth, htarget, hanc, hdirect, htrans, hinput, hsorted, hzero, hreq⟩ := hsim p hp
  case depth => exact hdepth
  case trigTarget => exact htarget
  case ancRange => exact fun ad had => (hanc ad had).1
  case direct => exact fun tr htr => exists_le_of_any (hdirect tr htr)
  case trans =>
    intro tr htr q hq bd hbd hb
    rcases htrans tr htr q hq bd hbd with hne | ⟨hany, hcut⟩
    · rw [beq_iff_eq.mpr hb] at hne
      cases hne
    · exact ⟨exists_le_of_any hany, hcut⟩
  case trigInput => exact fun tr htr => exists_le_of_any (hinput tr htr)
  case ancShape => exact fun ad had => (hanc ad had).2
  case next0Ok => exact ⟨hsorted, hzero⟩
  case trigReq =>
    intro hempty
    rcases hreq with h | h
    · rw [hempty] at h
      cases h
    · exact List.isEmpty_iff.mp h

end Mosaik
