/-
The invariant of real-time mode (`f` clock ticks per unit of simulation time): every simulator's progress is at most
`cap f clock` = ceil(clock / f).  Every action keeps it: progress is written by `advance_progress` only, which takes a minimum
over candidates the cap is among, and the clock only grows.  `step_capped` is the one walk over `Fires` that is about real-time
mode.  The names are those of property C17, which reads the invariant off the reachable states.
-/
import MosaikProofs.Sched.Blocks
namespace Mosaik.C17

def cap (f clock : Nat) : Nat := (clock + f - 1) / f

theorem cap_mono (f : Nat) {a b : Nat} (h : a ≤ b) : cap f a ≤ cap f b :=
  Nat.div_le_div_right (Nat.sub_le_sub_right (Nat.add_le_add_right h f) 1)

/-- no simulator's progress is ahead of the real-time cap at the present clock value -/
def Capped (f : Nat) (s : State) : Prop := ∀ p, TT.time (s.sims p).progress ≤ cap f s.clock

theorem Capped.of_same {f : Nat} {s s' : State} (h : Capped f s) (hc : s'.clock = s.clock)
    (hp : ∀ p, (s'.sims p).progress = (s.sims p).progress) : Capped f s' :=
  fun p => by rw [hp p, hc]; exact h p

theorem Capped.upd {f : Nat} {s : State} (h : Capped f s) (p : Sid) {g : SimSt → SimSt} (hg : ∀ x, (g x).progress = x.progress) :
    Capped f (s.upd p g) :=
  h.of_same rfl fun q => State.upd_keeps (·.progress) s p q hg

theorem Capped.fail {f : Nat} {s : State} (h : Capped f s) (e : SchedErr) : Capped f (s.fail e) :=
  h.of_same (by unfold State.fail; split <;> rfl) fun p => by rw [State.fail_sims]

theorem advance_capped {cfg : Cfg} {f : Nat} (hf : cfg.rt = some f) {s : State} (h : Capped f s) (q : Sid) :
    Capped f (advance cfg s q) := by
  intro p
  rw [show (advance cfg s q).clock = s.clock by rw [advance_state]]
  by_cases hpq : p = q
  · subst hpq
    unfold advance
    simp only
    split
    · rw [State.fail_sims]
      exact h p
    · rw [State.upd_same]
      have hmem : ofWorld (cfg.sim p).depth (cap f s.clock) ∈ candidates cfg s p := by
        unfold candidates rtCap
        rw [hf]
        exact List.mem_append_right _ (List.mem_singleton.mpr rfl)
      exact Nat.le_trans (TT.time_mono (minTT_le_mem (candidates cfg s p) (cfg.endT p) _ hmem))
        (time_ofWorld_le (cfg.sim p).depth (cap f s.clock))
  · rw [advance_other _ _ hpq]
    exact h p

theorem advanceAll_capped {cfg : Cfg} {f : Nat} (hf : cfg.rt = some f) {s : State} (h : Capped f s) :
    Capped f (advanceAll cfg s) := by
  unfold advanceAll
  apply foldl_inv (Capped f) _ _ _ h
  intro st q _ hst
  split
  · exact hst
  · exact advance_capped hf hst q

theorem settle_capped {cfg : Cfg} {f : Nat} {s : State} (h : Capped f s) (p : Sid) : Capped f (settle cfg s p) :=
  h.of_same (by rw [settle_state]) fun q => by rw [settle_sims]

theorem settled_capped {cfg : Cfg} {f : Nat} {s : State} (h : Capped f s) (p : Sid) : Capped f (settled cfg s p) :=
  h.of_same (by rw [settled_state]) fun q => by rw [settled_sims]

theorem finish_capped {cfg : Cfg} {f : Nat} (hf : cfg.rt = some f) {s : State} (h : Capped f s) (p : Sid) (c : TT) :
    Capped f (finish cfg s p c) := by
  have h1 : Capped f (clearCur s p c) := h.upd p (g := fun x => { x with cur := none }) fun _ => rfl
  have h3 : Capped f (advanceAll cfg (notify cfg (clearCur s p c) p)) :=
    advanceAll_capped hf (h1.of_same (by rw [notify_state]) fun q => by rw [notify_sims])
  unfold finish
  simp only
  split
  · exact h3
  · apply settle_capped
    split
    · exact h3.of_same rfl fun q => by rw [prune_sims]
    · exact h3

theorem afterStep_capped {cfg : Cfg} {f : Nat} (hf : cfg.rt = some f) {s : State} (h : Capped f s) (p : Sid) (c : TT) :
    Capped f (afterStep cfg s p c) := by
  have h1 : Capped f (rtCheck cfg s p c) := h.of_same (by rw [rtCheck_state]) fun q => by rw [rtCheck_sims]
  rcases afterStep_cases cfg s p c with ⟨_, e⟩ | ⟨_, _, e⟩ | ⟨_, e⟩ <;> rw [e]
  · exact h1
  · exact finish_capped hf h1 p c
  · exact h1.upd p fun _ => rfl

theorem step_capped {cfg : Cfg} {f : Nat} (hf : cfg.rt = some f) {s s' : State} {a : Action} (h : Capped f s)
    (hstep : step cfg s a = some s') : Capped f s' := by
  cases step_fires hstep with
  | start p => exact settled_capped (advance_capped hf h p) p
  | wake p =>
    have h0 : Capped f (s.upd p fun x => { x with newer := false }) := h.upd p fun _ => rfl
    apply settled_capped
    unfold woken
    split
    · exact advance_capped hf h0 p
    · exact h0
  | deps p _ c rest =>
    have h1 : Capped f (s.upd p fun x => { x with cur := some c, next := rest }) := h.upd p fun _ => rfl
    rcases beginStep_cases cfg s p c rest with ⟨_, _, e⟩ | ⟨_, _, e⟩ <;> rw [e]
    · exact h1.fail _
    · refine h.of_same rfl fun q => ?_
      by_cases hqp : q = p
      · rw [hqp, begunState_same]
      · rw [begunState_other cfg s p c rest hqp]
  | setDataRefused | getDataRefused | eventNotRt => exact h.fail _
  | setData => exact h.upd _ fun _ => rfl
  | getData => exact h
  | setEvent => exact h.of_same (by rw [schedule_state]) fun q => by rw [schedule_sims]
  | eventIgnored => exact h
  | stepReply p r c =>
    have h1 : Capped f (stepped s p c) := h.of_same rfl fun q => by rw [stepped_sims]
    rcases processStepReply_cases cfg s p c r with ⟨k, _, e⟩ | ⟨_, e⟩ <;> rw [e]
    · exact h1.fail _
    · apply afterStep_capped hf
      rcases replied_cases cfg s p c r with e | ⟨n, _, _, e⟩ <;> rw [e]
      · exact h1
      · exact h1.of_same (by rw [schedule_state]) fun q => by rw [schedule_sims]
  | dataReply p d c =>
    have h1 : Capped f (gotReply s p c d) := h.of_same rfl fun q => by rw [gotReply_sims]
    rcases processDataReply_cases cfg s p c d with ⟨_, e⟩ | ⟨_, e⟩ <;> rw [e]
    · exact h1.fail _
    · exact finish_capped hf (h1.of_same (by rw [storeOutputs_state]) fun q => by rw [storeOutputs_sims]) p c
  | tick n => exact fun p => Nat.le_trans (h p) (cap_mono f (Nat.le_add_right _ _))

end Mosaik.C17
