/-
What an action does to the output caches, to `last_step` and to the `get_data` events of the log (C03 and C04 on the
cache path, default configuration `cache=True`).

`Frame s s'`: no cache and no `last_step` differs, the log grew by events other than `get_data` replies.  Only three
things break a frame: a `step` reply sets `last_step`, a `get_data` reply is logged and its data entered, and the end of a
step prunes the caches (`FramePrune`: a frame up to one pruning).  `step_frames` says this of the nine actions; the
theorems about caches rest on it and do not walk through the actions again.

`reach_lastOk`: `last_step` of a simulator is one of the steps it has begun.
`step_look`: an action of another simulator does not change the cache entries a given list of lookups reads, if the entry
a `get_data` reply adds (or overwrites) lies after what they read and pruning keeps what they read
(`prune_state_lookups`); the caches are in key order (`Sorted`: the sources' output times have not gone back).
-/
import MosaikProofs.Sched.Prune
import MosaikProofs.Sched.Others
import MosaikProofs.Sched.Trace
namespace Mosaik

def LastEq (s s' : State) : Prop := ∀ q, (s'.sims q).last = (s.sims q).last

def OutEq (s s' : State) : Prop := ∀ q, (s'.sims q).outputs = (s.sims q).outputs

def Event.isGot : Event → Bool
  | .got .. => true
  | _ => false

/-- the log grew by events that are not `get_data` replies -/
def LogExt (s s' : State) : Prop := ∃ pre, s'.log = pre ++ s.log ∧ ∀ e ∈ pre, e.isGot = false

theorem LogExt.of_log_eq {s s' : State} (h : s'.log = s.log) : LogExt s s' := ⟨[], h, fun _ h => by cases h⟩

theorem LogExt.of_log_cons {s s' : State} {e : Event} (h : s'.log = e :: s.log) (he : e.isGot = false) : LogExt s s' :=
  ⟨[e], h, fun e' he' => by rw [List.mem_singleton.mp he']; exact he⟩

theorem LogExt.refl (s : State) : LogExt s s := .of_log_eq rfl

theorem LogExt.trans {s s' s'' : State} (h1 : LogExt s s') (h2 : LogExt s' s'') : LogExt s s'' := by
  obtain ⟨p1, e1, n1⟩ := h1
  obtain ⟨p2, e2, n2⟩ := h2
  refine ⟨p2 ++ p1, by rw [e2, e1, List.append_assoc], ?_⟩
  intro e he
  rcases List.mem_append.mp he with h | h
  · exact n2 e h
  · exact n1 e h

theorem LogExt.congr_noGot {α : Type} {f : List Event → α} (hf : ∀ e l, e.isGot = false → f (e :: l) = f l) {s s' : State}
    (h : LogExt s s') : f s'.log = f s.log := by
  obtain ⟨pre, he, hn⟩ := h
  rw [he]
  clear he
  induction pre with
  | nil => rfl
  | cons e pre ih =>
    rw [List.cons_append, hf e _ (hn e List.mem_cons_self)]
    exact ih fun e' he' => hn e' (List.mem_cons_of_mem _ he')

theorem logExt_upd (s : State) (p : Sid) (f : SimSt → SimSt) : LogExt s (s.upd p f) := .of_log_eq rfl
theorem logExt_emit (s : State) (e : Event) (h : e.isGot = false) : LogExt s (s.emit e) := .of_log_cons rfl h
theorem logExt_fail (s : State) (e : SchedErr) : LogExt s (s.fail e) := .of_log_eq (State.fail_log s e)

theorem begunState_logExt (cfg : Cfg) (s : State) (p : Sid) (c : TT) (rest : List TT) : LogExt s (begunState cfg s p c rest) :=
  .of_log_cons rfl rfl

theorem rtCheck_logExt (cfg : Cfg) (s : State) (p : Sid) (c : TT) : LogExt s (rtCheck cfg s p c) := by
  rcases rtCheck_cases cfg s p c with e | e | e <;> rw [e]
  · exact .refl s
  · exact logExt_fail _ _
  · exact .of_log_cons rfl rfl

structure Frame (s s' : State) : Prop where
  out : OutEq s s'
  log : LogExt s s'
  last : LastEq s s'

theorem Frame.refl (s : State) : Frame s s := { out := fun _ => rfl, log := LogExt.refl s, last := fun _ => rfl }
theorem Frame.trans {s s' s'' : State} (h1 : Frame s s') (h2 : Frame s' s'') : Frame s s'' :=
  { out := fun q => (h2.out q).trans (h1.out q), log := h1.log.trans h2.log, last := fun q => (h2.last q).trans (h1.last q) }

/-- the fields of a simulator a `Frame` keeps -/
abbrev SimSt.cached (x : SimSt) : List (Int × OutData) × Option TT := (x.outputs, x.last)

theorem Frame.of_sims {s s' : State} (h : ∀ q, (s'.sims q).cached = (s.sims q).cached) (hl : LogExt s s') : Frame s s' :=
  { out := fun q => congrArg Prod.fst (h q), log := hl, last := fun q => congrArg Prod.snd (h q) }

theorem frame_upd (s : State) (p : Sid) (f : SimSt → SimSt) (hf : ∀ x, (f x).cached = x.cached) : Frame s (s.upd p f) :=
  .of_sims (fun q => State.upd_keeps SimSt.cached s p q hf) (logExt_upd s p f)

theorem outEq_upd (s : State) (p : Sid) (f : SimSt → SimSt) (hf : ∀ x, (f x).outputs = x.outputs) : OutEq s (s.upd p f) :=
  fun q => State.upd_keeps (·.outputs) s p q hf

theorem frame_emit (s : State) (e : Event) (h : e.isGot = false) : Frame s (s.emit e) := .of_sims (fun _ => rfl) (logExt_emit s e h)
theorem frame_fail (s : State) (e : SchedErr) : Frame s (s.fail e) := .of_sims (fun q => by rw [State.fail_sims]) (logExt_fail s e)

theorem advance_frame (cfg : Cfg) (s : State) (p : Sid) : Frame s (advance cfg s p) :=
  .of_sims (fun q => by rw [advance_sims]) (.of_log_eq (by rw [advance_state]))

theorem settle_frame (cfg : Cfg) (s : State) (p : Sid) : Frame s (settle cfg s p) := by
  refine .of_sims (fun q => by rw [settle_sims]) ?_
  rcases settle_eq cfg s p with e | e <;> rw [e]
  · exact .of_log_eq rfl
  · exact .of_log_cons rfl rfl

theorem settled_frame (cfg : Cfg) (s : State) (p : Sid) : Frame s (settled cfg s p) := by
  unfold settled
  split
  · exact .refl s
  · exact settle_frame cfg s p

theorem woken_frame (cfg : Cfg) (s : State) (p : Sid) : Frame s (woken cfg s p) :=
  .of_sims (fun q => by rw [woken_sims]) (.of_log_eq (by rw [woken_state]))

theorem schedule_frame (s : State) (b : Sid) (t : TT) : Frame s (schedule s b t) :=
  .of_sims (fun q => by rw [schedule_sims]) (.of_log_eq (by rw [schedule_state]))

theorem beginStep_frame (cfg : Cfg) (s : State) (p : Sid) (c : TT) (rest : List TT) : Frame s (beginStep cfg s p c rest) := by
  have h1 : Frame s (s.upd p fun x => { x with cur := some c, next := rest }) := frame_upd _ _ _ fun _ => rfl
  rcases beginStep_cases cfg s p c rest with ⟨_, _, e⟩ | ⟨_, _, e⟩ <;> rw [e]
  · exact h1.trans (frame_fail _ _)
  · refine .of_sims (fun q => ?_) (begunState_logExt cfg s p c rest)
    by_cases hqp : q = p
    · rw [hqp, begunState_same]
    · rw [begunState_other cfg s p c rest hqp]

theorem replied_frame (cfg : Cfg) (s : State) (p : Sid) (c : TT) (r : StepReply) :
    Frame (s.upd p fun x => { x with last := some c }) (replied cfg s p c r) := by
  have h1 : Frame (s.upd p fun x => { x with last := some c }) (stepped s p c) := frame_emit _ _ rfl
  rcases replied_cases cfg s p c r with e | ⟨n, _, _, e⟩ <;> rw [e]
  · exact h1
  · exact h1.trans (schedule_frame _ _ _)

theorem replied_logExt (cfg : Cfg) (s : State) (p : Sid) (c : TT) (r : StepReply) : LogExt s (replied cfg s p c r) :=
  (logExt_upd s p _).trans (replied_frame cfg s p c r).log

/-- a frame up to one pruning of the caches on the way -/
def FramePrune (cfg : Cfg) (s s' : State) : Prop := Frame s s' ∨ ∃ s3, Frame s s3 ∧ Frame (prune cfg s3) s'

theorem Frame.then {cfg : Cfg} {s s1 s' : State} (h1 : Frame s s1) (h2 : FramePrune cfg s1 s') : FramePrune cfg s s' := by
  rcases h2 with h2 | ⟨s3, h2, h3⟩
  · exact .inl (h1.trans h2)
  · exact .inr ⟨s3, h1.trans h2, h3⟩

theorem FramePrune.last {cfg : Cfg} {s s' : State} (h : FramePrune cfg s s') : LastEq s s' := by
  rcases h with h | ⟨s3, h1, h2⟩
  · exact h.last
  · exact fun q => ((h2.last q).trans (by rw [prune_sims])).trans (h1.last q)

theorem FramePrune.log {cfg : Cfg} {s s' : State} (h : FramePrune cfg s s') : LogExt s s' := by
  rcases h with h | ⟨s3, h1, h2⟩
  · exact h.log
  · exact (h1.log.trans (.of_log_eq (s' := prune cfg s3) rfl)).trans h2.log

theorem finish_framePrune (cfg : Cfg) (s : State) (p : Sid) (c : TT) : FramePrune cfg s (finish cfg s p c) := by
  have h3 : Frame s (advanceAll cfg (notify cfg (clearCur s p c) p)) :=
    .of_sims (fun q => by rw [advanceAll_sims, notify_sims, clearCur_sims])
      (.of_log_cons (e := .finished p c) (by rw [advanceAll_state, notify_state]; rfl) rfl)
  unfold finish
  simp only
  split
  · exact .inl h3
  · split
    · exact .inr ⟨_, h3, settle_frame cfg _ p⟩
    · exact .inl (h3.trans (settle_frame cfg _ p))

theorem afterStep_framePrune (cfg : Cfg) (s : State) (p : Sid) (c : TT) : FramePrune cfg s (afterStep cfg s p c) := by
  have h3 : Frame s (rtCheck cfg s p c) := .of_sims (fun q => by rw [rtCheck_sims]) (rtCheck_logExt cfg s p c)
  rcases afterStep_cases cfg s p c with ⟨_, e⟩ | ⟨_, _, e⟩ | ⟨_, e⟩ <;> rw [e]
  · exact .inl h3
  · exact h3.then (finish_framePrune cfg _ p c)
  · exact .inl (h3.trans (frame_upd _ _ _ fun _ => rfl))

theorem step_frames {cfg : Cfg} {s s' : State} {a : Action} (h : step cfg s a = some s') :
    Frame s s' ∨
    (∃ p r c, a = .stepReply p r ∧ p < cfg.n ∧ (s.sims p).cur = some c ∧
      FramePrune cfg (s.upd p fun x => { x with last := some c }) s') ∨
    (∃ p d c, a = .dataReply p d ∧ s' = (gotReply s p c d).fail (.badReply p .outputTimeEarly)) ∨
    (∃ p d c, DataAccepted cfg s a p d c ∧ FramePrune cfg (storeOutputs cfg (gotReply s p c d) p (outTimeOf c d).1 d) s') := by
  cases step_fires h with
  | start p => exact .inl ((advance_frame cfg s p).trans (settled_frame cfg _ p))
  | wake p => exact .inl ((woken_frame cfg s p).trans (settled_frame cfg _ p))
  | deps p _ c rest => exact .inl (beginStep_frame cfg s p c rest)
  | setDataRefused | getDataRefused | eventNotRt => exact .inl (frame_fail _ _)
  | setData => exact .inl (frame_upd _ _ _ fun _ => rfl)
  | getData => exact .inl (.refl s)
  | setEvent => exact .inl (schedule_frame _ _ _)
  | eventIgnored => exact .inl (frame_emit _ _ rfl)
  | stepReply p r c _ hp _ hcur =>
    refine .inr (.inl ⟨p, r, c, rfl, hp, hcur, ?_⟩)
    rcases processStepReply_cases cfg s p c r with ⟨k, _, e⟩ | ⟨_, e⟩ <;> rw [e]
    · exact .inl ((frame_emit _ _ rfl).trans (frame_fail _ _))
    · exact (replied_frame cfg s p c r).then (afterStep_framePrune cfg _ p c)
  | dataReply p d c _ hp _ hcur =>
    rcases processDataReply_cases cfg s p c d with ⟨_, e⟩ | ⟨hot, e⟩ <;> rw [e]
    · exact .inr (.inr (.inl ⟨p, d, c, rfl, rfl⟩))
    · exact .inr (.inr (.inr ⟨p, d, c, ⟨rfl, hp, hcur, hot⟩, finish_framePrune cfg _ p c⟩))
  | tick => exact .inl (.of_sims (fun _ => rfl) (.of_log_eq rfl))

/-- `last_step` is one of the steps begun -/
def LastOk (s : State) (q : Sid) : Prop := ∀ t, (s.sims q).last = some t → t ∈ (s.sims q).begun

theorem reach_lastOk {cfg : Cfg} (hw : WFCfg cfg) {s : State} (hr : Reach cfg s) : s.failed = none → ∀ q, q < cfg.n → LastOk s q := by
  refine reach_induction_nf (I := fun s => ∀ q, q < cfg.n → LastOk s q) ?_ ?_ hr
  · intro q _ t ht
    cases ht
  · intro s s' a hr hf0 ih hstep hnf q hq
    have hgrow : ∀ t, t ∈ (s.sims q).begun → t ∈ (s'.sims q).begun := (step_mono hw hr hstep hnf).2 q
    have ofEq : (s'.sims q).last = (s.sims q).last → LastOk s' q := fun he t ht => hgrow t (ih q hq t (by rw [← he]; exact ht))
    rcases step_frames hstep with hfr | ⟨p, r, c, rfl, hp, hcur, hfp⟩ | ⟨p, d, c, _, rfl⟩ | ⟨p, d, c, _, hfp⟩
    · exact ofEq (hfr.last q)
    · -- the only place where `last` changes: it becomes the step in flight
      by_cases hqp : q = p
      · subst hqp
        intro t ht
        rw [hfp.last q, State.upd_same] at ht
        cases ht
        exact hgrow c (((reach_good hw hr hf0).1 q hp).cur_begun c hcur)
      · exact ofEq (by rw [hfp.last q, State.upd_other _ _ hqp])
    · exact absurd hnf (State.fail_ne_none _ _)
    · exact ofEq (by rw [hfp.last q, storeOutputs_sims, gotReply_sims])

theorem reach_last_le {cfg : Cfg} (hw : WFCfg cfg) {s : State} (hr : Reach cfg s) (hnf : s.failed = none) {q : Sid} (hq : q < cfg.n)
    {t : TT} (hl : (s.sims q).last = some t) : t ≤ (s.sims q).progress :=
  ((reach_good hw hr hnf).1 q hq).begun_le t (reach_lastOk hw hr hnf q hq t hl)

theorem lastTime_le {s : State} {q : Sid} {c : TT} (h : ∀ t, (s.sims q).last = some t → t ≤ c) :
    lastTime s q ≤ (TT.time c : Int) := by
  unfold lastTime
  cases hl : (s.sims q).last with
  | none => exact Int.le_trans (by decide) (Int.natCast_nonneg _)
  | some t => exact Int.ofNat_le.mpr (TT.time_mono (h t hl))

theorem reach_lastTime_le {cfg : Cfg} (hw : WFCfg cfg) {s : State} (hr : Reach cfg s) (hnf : s.failed = none) {q : Sid} (hq : q < cfg.n) :
    lastTime s q ≤ (TT.time (s.sims q).progress : Int) :=
  lastTime_le fun _ hl => reach_last_le hw hr hnf hq hl

theorem sorted_cachePut {l : List (Int × OutData)} (hs : Sorted l) (ot : Int) (x : OutData) (h : ∀ e ∈ l, e.1 ≤ ot) :
    Sorted (cachePut l ot x) := by
  unfold cachePut
  by_cases hany : l.any (·.1 == ot) = true
  · rw [if_pos hany]
    have hk : ∀ a : Int × OutData, (if a.1 == ot then (ot, x) else a).1 = a.1 := fun a => by
      by_cases ha : a.1 == ot
      · rw [if_pos ha]
        exact (eq_of_beq ha).symm
      · rw [if_neg ha]
    exact List.pairwise_map.mpr (hs.imp fun hab => by rw [hk, hk]; exact hab)
  · rw [if_neg hany]
    refine List.pairwise_append.mpr ⟨hs, List.pairwise_singleton _ _, fun e he b hb => ?_⟩
    rw [List.mem_singleton.mp hb]
    have hne : e.1 ≠ ot := fun heq => hany (List.any_eq_true.mpr ⟨e, he, beq_iff_eq.mpr heq⟩)
    exact Int.lt_iff_le_and_ne.mpr ⟨h e he, hne⟩

theorem mem_cachePut {l : List (Int × OutData)} {ot : Int} {x : OutData} {e : Int × OutData} :
    e ∈ cachePut l ot x ↔ e = (ot, x) ∨ (e ∈ l ∧ e.1 ≠ ot) :=
  mem_assocPut

theorem lookup_cachePut_lt {l : List (Int × OutData)} (hs : Sorted l) (ot : Int) (x : OutData) (h : ∀ e ∈ l, e.1 ≤ ot) {τ : Int}
    (hτ : τ < ot) : getOutputFor (cachePut l ot x) τ = getOutputFor l τ := by
  have hne : ∀ e : Int × OutData, e.1 ≤ τ → e.1 ≠ ot := fun e he => Int.ne_of_lt (Int.lt_of_le_of_lt he hτ)
  exact getOutputFor_eq_of hs (sorted_cachePut hs ot x h) τ
    (fun e hm he => ((mem_cachePut.mp hm).resolve_left fun e0 => hne e he (by rw [e0])).1)
    (fun e hm he _ => mem_cachePut.mpr (Or.inr ⟨hm, hne e he⟩))

theorem lookup_cachePut {l : List (Int × OutData)} (hs : Sorted l) (ot : Int) (x : OutData) (h : ∀ e ∈ l, e.1 ≤ ot) (τ : Int) :
    getOutputFor (cachePut l ot x) τ = if ot ≤ τ then x else getOutputFor l τ := by
  by_cases hτ : ot ≤ τ
  · rw [if_pos hτ]
    have hsorted := sorted_cachePut hs ot x h
    have hmem : (ot, x) ∈ cachePut l ot x := mem_cachePut.mpr (Or.inl rfl)
    rcases getOutputFor_sorted hsorted τ with ⟨e, hmem_e, _, hmax, he⟩ | ⟨hnone, _⟩
    · -- `e` is the entry with the greatest key ≤ τ; every key is ≤ ot ≤ τ, so it is the new entry
      have h1 : (ot, x).1 ≤ e.1 := hmax (ot, x) hmem hτ
      have h2 : e.1 ≤ ot := by
        rcases mem_cachePut.mp hmem_e with rfl | ⟨hin, _⟩
        · exact Int.le_refl _
        · exact h e hin
      rw [he, sorted_key_inj hsorted hmem_e hmem (Int.le_antisymm h2 h1)]
    · exact absurd hτ (hnone (ot, x) hmem)
  · rw [if_neg hτ]
    exact lookup_cachePut_lt hs ot x h (Int.not_le.mp hτ)

/-- the lookups in `L` (source simulator, time) give the same entry in both states -/
def LookEq (L : List (Sid × Int)) (s s' : State) : Prop :=
  ∀ x ∈ L, getOutputFor (s'.sims x.1).outputs x.2 = getOutputFor (s.sims x.1).outputs x.2

theorem LookEq.of_outEq {L : List (Sid × Int)} {s s' : State} (h : OutEq s s') : LookEq L s s' := fun x _ => by rw [h x.1]
theorem LookEq.trans {L : List (Sid × Int)} {s s' s'' : State} (h1 : LookEq L s s') (h2 : LookEq L s' s'') : LookEq L s s'' :=
  fun x hx => (h2 x hx).trans (h1 x hx)

/-- the lookups the step `c` of `q` makes -/
def lookups (cfg : Cfg) (q : Sid) (c : TT) : List (Sid × Int) :=
  (cfg.sim q).pulled.map (fun e => (e.1, (TT.time c : Int) - (tier e.2.1.tiers 0 : Int)))

theorem storeOutputs_cache (cfg : Cfg) (s : State) (p : Sid) (ot : Int) (d : DataReply) (L : List (Sid × Int))
    (hL : ∀ x ∈ L, x.1 = p → x.2 < ot) (hmono : ∀ e ∈ (s.sims p).outputs, e.1 ≤ ot) (hsorted : ∀ r, Sorted (s.sims r).outputs) :
    LookEq L s (storeOutputs cfg s p ot d) ∧ ∀ r, Sorted ((storeOutputs cfg s p ot d).sims r).outputs := by
  constructor
  · intro x hx
    rw [storeOutputs_outputs]
    split
    · rename_i h
      rw [h.2]
      exact lookup_cachePut_lt (hsorted p) ot d.data hmono (hL x hx h.2)
    · rfl
  · intro r
    rw [storeOutputs_outputs]
    split
    · exact sorted_cachePut (hsorted p) ot d.data hmono
    · exact hsorted r

theorem FramePrune.look {cfg : Cfg} {s s' : State} {L : List (Sid × Int)} (h : FramePrune cfg s s')
    (hp : ∀ st, Frame s st → LookEq L st (prune cfg st)) : LookEq L s s' := by
  rcases h with h | ⟨s3, h1, h2⟩
  · exact .of_outEq h.out
  · exact ((LookEq.of_outEq h1.out).trans (hp s3 h1)).trans (.of_outEq h2.out)

theorem step_look {cfg : Cfg} {s s' : State} {a : Action} {L : List (Sid × Int)} {q : Sid} (h : step cfg s a = some s')
    (hact : a.actor ≠ some q) (hsorted : ∀ r, Sorted (s.sims r).outputs)
    (hps : ∀ st, (st.sims q).last = (s.sims q).last → (∀ r, Sorted (st.sims r).outputs) → LookEq L st (prune cfg st))
    (hreply : ∀ p d c, DataAccepted cfg s a p d c →
      (∀ x ∈ L, x.1 = p → x.2 < (outTimeOf c d).1) ∧ (∀ e ∈ (s.sims p).outputs, e.1 ≤ (outTimeOf c d).1)) :
    LookEq L s s' := by
  -- `hps` from a state `s1` on that has `q`'s `last_step` and caches in key order
  have hps' : ∀ {s1 : State}, (s1.sims q).last = (s.sims q).last → (∀ r, Sorted (s1.sims r).outputs) →
      ∀ st, Frame s1 st → LookEq L st (prune cfg st) := fun hl hso st hf =>
    hps st ((hf.last q).trans hl) fun r => by rw [hf.out r]; exact hso r
  rcases step_frames h with hfr | ⟨p, r, c, rfl, _, _, hfp⟩ | ⟨p, d, c, _, rfl⟩ | ⟨p, d, c, hacc, hfp⟩
  · exact .of_outEq hfr.out
  · have hqp : q ≠ p := fun e => hact (by rw [e]; rfl)
    have h1 : OutEq s (s.upd p fun x => { x with last := some c }) := outEq_upd s p _ fun _ => rfl
    exact (LookEq.of_outEq h1).trans (hfp.look (hps' (by rw [State.upd_other _ _ hqp]) fun r => by rw [h1 r]; exact hsorted r))
  · exact .of_outEq fun r => by rw [State.fail_sims, gotReply_sims]
  · obtain ⟨hL, hmono⟩ := hreply p d c hacc
    have h1 : OutEq s (gotReply s p c d) := fun r => by rw [gotReply_sims]
    obtain ⟨hlook, hso⟩ := storeOutputs_cache cfg (gotReply s p c d) p (outTimeOf c d).1 d L hL
      (by rw [h1 p]; exact hmono) (fun r => by rw [h1 r]; exact hsorted r)
    exact ((LookEq.of_outEq h1).trans hlook).trans (hfp.look (hps' (by rw [storeOutputs_sims, gotReply_sims]) hso))

/-- cached connections: source exists, the delay is a number of time steps and is covered by the destination's minimal
input delay from the source -/
structure PullOk (cfg : Cfg) : Prop where
  range : ∀ p, p < cfg.n → ∀ e ∈ (cfg.sim p).pulled, e.1 < cfg.n
  shape : ∀ p, p < cfg.n → ∀ e ∈ (cfg.sim p).pulled, e.2.1.cutoff = 1 ∧ e.2.1.tiers.length = 1
  covered : ∀ p, p < cfg.n → ∀ e ∈ (cfg.sim p).pulled, ∃ d0, (e.1, d0) ∈ (cfg.sim p).inputDelays ∧ TI.le d0 e.2.1

end Mosaik
