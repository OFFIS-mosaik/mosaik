/-
Refinement of the cache path to the output history (C03, `cache=True`).

`histOf cfg q log` is the cache of simulator `q` as it would be if it were never pruned: the declared initial data,
then every `get_data` reply recorded in the run's log, entered the way `get_outputs` enters it (`cachePut`).
`reachM_cacheRef`: in every reachable state the real (pruned) cache gives, for every lookup a consumer can still make
(`minLast − maxShift q ≤ τ`), the same entry as the never-pruned history.  Consequently the pulled inputs of every step
are the values of the history: the newest output of the source at or before (step time − shift)
(`pull_refines_spec`).

Hypothesis on the run (`ReachM`): the output times a simulator reports never go back (the complement of the known
finding about non-monotone output times); on the configuration: the initial cache content is in key order
(`InitSorted`; complement of the finding about initial data of several time-shifted connections), and for
`pull_refines_spec` `PullOk` (it includes `shape`: cutoff 1 and one tier for every cached connection; the proof reads `range` only).
-/
import MosaikProofs.Sched.Cached
namespace Mosaik

/-- the cache of `q` if it were never pruned: initial content, then every `get_data` reply of the log (most recent first) -/
def histOf (cfg : Cfg) (q : Sid) : List Event → List (Int × OutData)
  | [] => (cfg.sim q).outputs0
  | .got p _ outTT data :: l => if p = q then cachePut (histOf cfg q l) (TT.time outTT : Int) data else histOf cfg q l
  | .begin .. :: l => histOf cfg q l
  | .stepped .. :: l => histOf cfg q l
  | .finished .. :: l => histOf cfg q l
  | .done .. :: l => histOf cfg q l
  | .rtWarn .. :: l => histOf cfg q l
  | .eventIgnored .. :: l => histOf cfg q l

theorem histOf_cons_noGot (cfg : Cfg) (q : Sid) (e : Event) (l : List Event) (h : e.isGot = false) :
    histOf cfg q (e :: l) = histOf cfg q l := by
  cases e <;> first | rfl | (simp [Event.isGot] at h)

theorem LogExt.hist {cfg : Cfg} {s s' : State} (h : LogExt s s') (q : Sid) : histOf cfg q s'.log = histOf cfg q s.log :=
  h.congr_noGot (histOf_cons_noGot cfg q)

def LastMono (s s' : State) : Prop := ∀ q, lastTime s q ≤ lastTime s' q

theorem LastMono.of_lastEq {s s' : State} (h : LastEq s s') : LastMono s s' := by
  intro q; unfold lastTime; rw [h q]; exact Int.le_refl _
theorem LastMono.trans {s s' s'' : State} (h1 : LastMono s s') (h2 : LastMono s' s'') : LastMono s s'' :=
  fun q => Int.le_trans (h1 q) (h2 q)

theorem foldl_min_mono (f g : Sid → Int) (h : ∀ p, f p ≤ g p) (l : List Sid) (m m' : Int) (hm : m ≤ m') :
    l.foldl (fun m p => min m (f p)) m ≤ l.foldl (fun m p => min m (g p)) m' := by
  induction l generalizing m m' with
  | nil => exact hm
  | cons p l ih =>
    rw [List.foldl_cons, List.foldl_cons]
    exact ih _ _ (Int.le_min.mpr ⟨Int.le_trans (Int.min_le_left _ _) hm, Int.le_trans (Int.min_le_right _ _) (h p)⟩)

theorem minLast_mono (cfg : Cfg) {s s' : State} (h : LastMono s s') : minLast cfg s ≤ minLast cfg s' := by
  unfold minLast
  exact foldl_min_mono _ _ h _ _ _ (h 0)

theorem LastMono.needed {cfg : Cfg} {s s' : State} (h : LastMono s s') {q : Sid} {τ : Int}
    (hτ : minLast cfg s' - maxShift cfg q ≤ τ) : minLast cfg s - maxShift cfg q ≤ τ :=
  Int.le_trans (Int.sub_le_sub_right (minLast_mono cfg h) _) hτ

/-- the real cache against the never-pruned history -/
structure CacheRef (cfg : Cfg) (s : State) : Prop where
  sortedO : ∀ q, Sorted (s.sims q).outputs
  sortedH : ∀ q, Sorted (histOf cfg q s.log)
  sub : ∀ q, ∀ e ∈ (s.sims q).outputs, e ∈ histOf cfg q s.log
  look : ∀ q, q < cfg.n → ∀ τ, minLast cfg s - maxShift cfg q ≤ τ →
    getOutputFor (s.sims q).outputs τ = getOutputFor (histOf cfg q s.log) τ

theorem cacheRef_frame {cfg : Cfg} {s s' : State} (h : CacheRef cfg s) (ho : OutEq s s') (hl : LogExt s s') (hm : LastMono s s') :
    CacheRef cfg s' := by
  constructor
  case sortedO =>
    intro q
    rw [ho q]
    exact h.sortedO q
  case sortedH =>
    intro q
    rw [hl.hist q]
    exact h.sortedH q
  case sub =>
    intro q e he
    rw [hl.hist q]
    rw [ho q] at he
    exact h.sub q e he
  case look =>
    intro q hq τ hτ
    rw [ho q, hl.hist q]
    exact h.look q hq τ (hm.needed hτ)

theorem cacheRef_of_frame {cfg : Cfg} {s s' : State} (h : CacheRef cfg s) (hf : Frame s s') : CacheRef cfg s' :=
  cacheRef_frame h hf.out hf.log (LastMono.of_lastEq hf.last)

theorem cacheRef_prune {cfg : Cfg} {s : State} (h : CacheRef cfg s) : CacheRef cfg (prune cfg s) := by
  have hlast : LastMono s (prune cfg s) := .of_lastEq fun r => by rw [prune_sims]
  refine {
    sortedO := fun q => (h.sortedO q).sublist (prune_sublist cfg s q)
    sortedH := h.sortedH
    sub := fun q e he => h.sub q e ((prune_sublist cfg s q).subset he)
    look := fun q hq τ hτ => ?look }
  have hτ' : minLast cfg s - maxShift cfg q ≤ τ := hlast.needed hτ
  rw [prune_outputs cfg s hq, prune_keeps_lookups (h.sortedO q) _ τ hτ']
  exact h.look q hq τ hτ'

theorem cacheRef_of_framePrune {cfg : Cfg} {s s' : State} (h : CacheRef cfg s) (hf : FramePrune cfg s s') : CacheRef cfg s' := by
  rcases hf with hf | ⟨s3, h1, h2⟩
  · exact cacheRef_of_frame h hf
  · exact cacheRef_of_frame (cacheRef_prune (cacheRef_of_frame h h1)) h2

theorem cacheRef_put {cfg : Cfg} {s s2 : State} {p : Sid} {ot : Int} {x : OutData} (h : CacheRef cfg s)
    (hmono : ∀ e ∈ histOf cfg p s.log, e.1 ≤ ot)
    (hout : ∀ q, (s2.sims q).outputs = if q = p then cachePut (s.sims p).outputs ot x else (s.sims q).outputs)
    (hhist : ∀ q, histOf cfg q s2.log = if q = p then cachePut (histOf cfg p s.log) ot x else histOf cfg q s.log)
    (hlast : LastEq s s2) : CacheRef cfg s2 := by
  have hmonoO : ∀ e ∈ (s.sims p).outputs, e.1 ≤ ot := fun e he => hmono e (h.sub p e he)
  constructor
  case sortedO =>
    intro q
    rw [hout q]
    split
    · exact sorted_cachePut (h.sortedO p) ot x hmonoO
    · exact h.sortedO q
  case sortedH =>
    intro q
    rw [hhist q]
    split
    · exact sorted_cachePut (h.sortedH p) ot x hmono
    · exact h.sortedH q
  case sub =>
    intro q e he
    rw [hout q] at he
    rw [hhist q]
    split at he
    · rename_i hqp
      rw [if_pos hqp]
      rcases mem_cachePut.mp he with rfl | ⟨hin, hne⟩
      · exact mem_cachePut.mpr (Or.inl rfl)
      · exact mem_cachePut.mpr (Or.inr ⟨h.sub p e hin, hne⟩)
    · rename_i hqp
      rw [if_neg hqp]
      exact h.sub q e he
  case look =>
    intro q hq τ hτ
    have hτ' : minLast cfg s - maxShift cfg q ≤ τ := (LastMono.of_lastEq hlast).needed hτ
    rw [hout q, hhist q]
    split
    · rename_i hqp
      subst hqp
      rw [lookup_cachePut (h.sortedO q) ot x hmonoO, lookup_cachePut (h.sortedH q) ot x hmono, h.look q hq τ hτ']
    · exact h.look q hq τ hτ'

theorem lastMono_setLast (s : State) (p : Sid) (c : TT) (h : ∀ t, (s.sims p).last = some t → t ≤ c) :
    LastMono s (s.upd p fun y => { y with last := some c }) := by
  intro q
  by_cases hq : q = p
  · subst hq
    have e : lastTime (s.upd q fun y => { y with last := some c }) q = (TT.time c : Int) := by
      unfold lastTime
      rw [State.upd_same]
    rw [e]
    exact lastTime_le h
  · unfold lastTime
    rw [State.upd_other _ _ hq]
    exact Int.le_refl _

/-- **the cache invariant is kept by every action** that does not fail, given that `last_step` moves forward and that
the reported output time is not before an earlier one -/
theorem step_cacheRef {cfg : Cfg} (hc : cfg.useCache = true) {s s' : State} {a : Action} (h : CacheRef cfg s)
    (hs : step cfg s a = some s') (hf' : s'.failed = none)
    (hlast : ∀ p r c, a = .stepReply p r → (s.sims p).cur = some c → ∀ t, (s.sims p).last = some t → t ≤ c)
    (hmono : ∀ p d c, a = .dataReply p d → (s.sims p).cur = some c → ∀ e ∈ histOf cfg p s.log, e.1 ≤ (outTimeOf c d).1) :
    CacheRef cfg s' := by
  rcases step_frames hs with hfr | ⟨p, r, c, rfl, _, hcur, hfp⟩ | ⟨p, d, c, _, rfl⟩ | ⟨p, d, c, ⟨rfl, _, hcur, hot⟩, hfp⟩
  · exact cacheRef_of_frame h hfr
  · -- `last_step` is set, then a frame up to pruning
    have hset : CacheRef cfg (s.upd p fun x => { x with last := some c }) :=
      cacheRef_frame h (outEq_upd s p _ fun _ => rfl) (logExt_upd s p _) (lastMono_setLast s p c (hlast p r c rfl hcur))
    exact cacheRef_of_framePrune hset hfp
  · exact absurd hf' (State.fail_ne_none _ _)
  · have hg : OutEq s (gotReply s p c d) := fun q => by rw [gotReply_sims]
    refine cacheRef_of_framePrune (cacheRef_put (p := p) (ot := (outTimeOf c d).1) (x := d.data) h (hmono p d c rfl hcur) ?_ ?_ ?_) hfp
    · intro q
      rw [storeOutputs_outputs, hg p, hg q]
      simp only [hc, true_and]
    · intro q
      rw [storeOutputs_state]
      show histOf cfg q (.got p c (outTimeOf c d).2 d.data :: s.log) = _
      rw [histOf, outTimeOf_time c d hot]
      by_cases hq : q = p
      · rw [if_pos hq, if_pos hq.symm, hq]
      · rw [if_neg hq, if_neg fun e => hq e.symm]
    · intro q
      rw [storeOutputs_sims, gotReply_sims]

/-- the `get_data` reply `a` does not report an output time before one reported earlier by the same simulator -/
def MonoAct (cfg : Cfg) (s : State) (a : Action) : Prop :=
  ∀ p d c, a = .dataReply p d → (s.sims p).cur = some c → ∀ e ∈ histOf cfg p s.log, e.1 ≤ (outTimeOf c d).1

/-- reachable by a run whose reported output times never go back -/
inductive ReachM (cfg : Cfg) : State → Prop where
  | init : ReachM cfg (initState cfg)
  | step {s s' : State} {a : Action} : ReachM cfg s → step cfg s a = some s' → MonoAct cfg s a → ReachM cfg s'

theorem ReachM.reach {cfg : Cfg} {s : State} (h : ReachM cfg s) : Reach cfg s := by
  induction h with
  | init => exact Reach.init
  | step _ hs _ ih => exact Reach.step ih hs

/-- the declared initial cache content is in key order -/
def InitSorted (cfg : Cfg) : Prop := ∀ q, Sorted (cfg.sim q).outputs0

theorem reachM_cacheRef {cfg : Cfg} (hw : WFCfg cfg) (hc : cfg.useCache = true) (hi : InitSorted cfg) {s : State}
    (hr : ReachM cfg s) : s.failed = none → CacheRef cfg s := by
  induction hr with
  | init =>
    intro _
    exact { sortedO := hi, sortedH := hi, sub := fun _ _ he => he, look := fun _ _ _ _ => rfl }
  | @step s s' a hr hstep hm ih =>
    intro hnf
    have hf0 := (step_fires hstep).not_failed
    refine step_cacheRef hc (ih hf0) hstep hnf ?_ hm
    -- `last_step` is a step begun, none of which lies after the current one
    intro p r c ha hcur t hlast
    subst ha
    cases step_fires hstep with
    | stepReply _ _ _ _ hp =>
      rw [← ((reach_good hw hr.reach hf0).1 p hp).cur_eq c hcur]
      exact reach_last_le hw hr.reach hf0 hp hlast

/-- `pullInputs` with the cache replaced by a history `H` -/
def pullSpec (cfg : Cfg) (H : Sid → List (Int × OutData)) (p : Sid) (c : TT) (inp : InputData) : InputData :=
  (cfg.sim p).pulled.foldl (fun acc (e : Sid × TI × Port × Port) =>
      let cache := getOutputFor (H e.1) ((TT.time c : Int) - (tier e.2.1.tiers 0 : Int))
      let v : Val := (OutData.get? cache e.2.2.1).getD .none
      InputData.set acc { eid := e.2.2.2.1, attr := e.2.2.2.2, ssid := e.1, seid := e.2.2.1.1 } v) inp

theorem pullSpec_congr {cfg : Cfg} {H H' : Sid → List (Int × OutData)} {p : Sid} {c : TT}
    (h : ∀ e ∈ (cfg.sim p).pulled, getOutputFor (H' e.1) ((TT.time c : Int) - (tier e.2.1.tiers 0 : Int)) =
      getOutputFor (H e.1) ((TT.time c : Int) - (tier e.2.1.tiers 0 : Int))) (inp : InputData) :
    pullSpec cfg H' p c inp = pullSpec cfg H p c inp := by
  unfold pullSpec
  apply List.foldl_rel (r := Eq) rfl
  intro e he acc _ hacc
  simp only
  rw [h e he, hacc]

theorem pullInputs_congr {cfg : Cfg} {s s' : State} {q : Sid} {c : TT} (h : LookEq (lookups cfg q c) s s') (inp : InputData) :
    pullInputs cfg s' q c inp = pullInputs cfg s q c inp :=
  pullSpec_congr (H' := fun r => (s'.sims r).outputs) (H := fun r => (s.sims r).outputs)
    (fun e he => h (e.1, _) (List.mem_map.mpr ⟨e, he, rfl⟩)) inp

/-- **cache path refines the history**: in every state reachable by a run whose output times do not go back, the values a
step of `p` at a time `c` (not before its last step) pulls over its cached connections are those of the never-pruned
history: for each connection the newest output of the source at or before `c − shift` -/
theorem pull_refines_spec {cfg : Cfg} (hw : WFCfg cfg) (hc : cfg.useCache = true) (hi : InitSorted cfg) (hp : PullOk cfg) {s : State}
    (hr : ReachM cfg s) (hnf : s.failed = none) {p : Sid} (hpn : p < cfg.n) (c : TT) (hlast : lastTime s p ≤ (TT.time c : Int))
    (inp : InputData) :
    pullInputs cfg s p c inp = pullSpec cfg (fun q => histOf cfg q s.log) p c inp :=
  pullSpec_congr (H' := fun r => (s.sims r).outputs) (H := fun q => histOf cfg q s.log) (fun e he =>
    (reachM_cacheRef hw hc hi hr hnf).look e.1 (hp.range p hpn e he) _
      (Int.sub_le_sub (Int.le_trans (minLast_le cfg s hpn) hlast) (maxShift_ge cfg hpn he rfl))) inp

theorem hist_lookup_newest {cfg : Cfg} (hw : WFCfg cfg) (hc : cfg.useCache = true) (hi : InitSorted cfg) {s : State}
    (hr : ReachM cfg s) (hnf : s.failed = none) (q : Sid) (τ : Int) :
    (∃ e ∈ histOf cfg q s.log, e.1 ≤ τ ∧ (∀ e' ∈ histOf cfg q s.log, e'.1 ≤ τ → e'.1 ≤ e.1) ∧ getOutputFor (histOf cfg q s.log) τ = e.2) ∨
    ((∀ e ∈ histOf cfg q s.log, ¬ e.1 ≤ τ) ∧ getOutputFor (histOf cfg q s.log) τ = []) :=
  getOutputFor_sorted ((reachM_cacheRef hw hc hi hr hnf).sortedH q) τ

/-- **the step request carries the history's values**: when a step of `p` begins (in a run whose output times do not go
back), the inputs sent with the request are `pullSpec` of the never-pruned history applied to some inputs `inp0` (in fact
the set_data / remembered / pushed inputs; the statement leaves them open) -/
theorem begin_pulls_history {cfg : Cfg} (hw : WFCfg cfg) (hc : cfg.useCache = true) (hi : InitSorted cfg) (hp : PullOk cfg)
    {s s' : State} (hr : ReachM cfg s) (hnf0 : s.failed = none) {p : Sid} (h : step cfg s (.deps p) = some s') (hnf : s'.failed = none) :
    ∃ c inp0 m, s'.log = .begin p c (pullSpec cfg (fun q => histOf cfg q s.log) p c inp0) m :: s.log := by
  cases step_fires h with
  | deps _ t c rest _ hpn _ _ hnext =>
    have hlastc : lastTime s p ≤ (TT.time c : Int) := lastTime_le fun t hl =>
      TT.le_trans (reach_last_le hw hr.reach hnf0 hpn hl)
        (((reach_good hw hr.reach hnf0).1 p hpn).le_next c (by rw [hnext]; exact List.mem_cons_self))
    have hs1 : OutEq s (s.upd p fun x => { x with cur := some c, next := rest }) := outEq_upd s p _ fun _ => rfl
    rw [(beginStep_nf hnf).2.2]
    exact ⟨c, _, _, by rw [← pull_refines_spec hw hc hi hp hr hnf0 hpn c hlastc, ← pullInputs_congr (.of_outEq hs1)]; rfl⟩

def monoActB (cfg : Cfg) (s : State) : Action → Bool
  | .dataReply p d => match (s.sims p).cur with
    | some c => (histOf cfg p s.log).all (fun e => decide (e.1 ≤ (outTimeOf c d).1))
    | none => true
  | _ => true

theorem monoActB_sound {cfg : Cfg} {s : State} {a : Action} (h : monoActB cfg s a = true) : MonoAct cfg s a := by
  intro p d c ha hcur e he
  subst ha
  simp only [monoActB, hcur, List.all_eq_true, decide_eq_true_eq] at h
  exact h e he

/-- every `get_data` reply of the run reports an output time that is not before an earlier one -/
def monoRunB (cfg : Cfg) : State → List Action → Bool
  | _, [] => true
  | s, a :: as => monoActB cfg s a && match step cfg s a with
    | some s' => monoRunB cfg s' as
    | none => true

theorem exec_reachM {cfg : Cfg} : ∀ (as : List Action) {s s' : State}, ReachM cfg s → exec cfg s as = some s' →
    monoRunB cfg s as = true → ReachM cfg s' := by
  intro as s s' hr he hm
  refine exec_ind (P := fun s as s' => ReachM cfg s → monoRunB cfg s as = true → ReachM cfg s') ?_ ?_ as he hr hm
  · exact fun _ hr _ => hr
  · intro s s1 s' a as hs _ ih hr hm
    simp only [monoRunB, hs, Bool.and_eq_true] at hm
    exact ih (ReachM.step hr hs (monoActB_sound hm.1)) hm.2

end Mosaik
