/-
Deadlock freedom for flat configurations (C05).

`Flat cfg rank` (Sched/Shape.lean): no simulator groups, and `rank` orders the simulators along the zero-delay connections.

`blocked_or_moves`: in a reachable quiescent state (not failed, no step in flight, every process started), a
simulator that has not ended either can take its next scheduler transition, or is held up by another
simulator that has not ended and is strictly smaller in the order (time of its progress, rank).
`deadlock_free_flat`: hence some scheduler transition is enabled as long as some simulator has not
ended.  Together with the simulators' answers this is "never waits on a condition that cannot
become true".
-/
import MosaikProofs.Sched.Await
import MosaikProofs.Sched.Done
import MosaikProofs.Sched.Shape
namespace Mosaik

/-- some scheduler transition is enabled -/
def Moves (cfg : Cfg) (s : State) : Prop :=
  (∃ p, (step cfg s (.wake p)).isSome = true) ∨ (∃ p, (step cfg s (.deps p)).isSome = true)

/-- the order in which blocked simulators are held up -/
def Before (s : State) (rank : Sid → Nat) (r q : Sid) : Prop :=
  TT.time (s.sims r).progress < TT.time (s.sims q).progress ∨
  (TT.time (s.sims r).progress = TT.time (s.sims q).progress ∧ rank r < rank q)

theorem Before.of_behind {s : State} {rank : Sid → Nat} {r q : Sid} {k : Nat}
    (hle : TT.time (s.sims r).progress + k ≤ TT.time (s.sims q).progress) (hk : k = 0 → rank r < rank q) : Before s rank r q := by
  cases k with
  | zero =>
    rcases Nat.lt_or_eq_of_le hle with h | h
    · exact Or.inl h
    · exact Or.inr ⟨h, hk rfl⟩
  | succ k => exact Or.inl (Nat.lt_of_lt_of_le (Nat.lt_add_of_pos_right (Nat.succ_pos k)) hle)

theorem blocked_or_moves {cfg : Cfg} (hw : WFCfg cfg) (hs : WFShape cfg) {rank : Sid → Nat} (hfl : Flat cfg rank)
    {s : State} (hr : Reach cfg s) (hnf : s.failed = none) (hidle : Idle cfg s)
    (hstarted : ∀ q, q < cfg.n → (s.sims q).pc ≠ .init) {q : Sid} (hq : q < cfg.n) (hnd : (s.sims q).pc ≠ .done) :
    Moves cfg s ∨ ∃ r, r < cfg.n ∧ (s.sims r).pc ≠ .done ∧ Before s rank r q := by
  obtain ⟨hcore, hpcs⟩ := reach_good hw hr hnf
  have hlen : ∀ x, x < cfg.n → (s.sims x).progress.length = 1 := fun x hx => by
    rw [progress_length hw hs hr hnf hidle hx (hstarted x hx), hfl.depth]
  have hcurnone : ∀ x, x < cfg.n → (s.sims x).cur = none := fun x hx =>
    (hpcs x hx).idle (by rintro (h | h); exact (hidle x hx).1 h; exact (hidle x hx).2 h)
  -- `r` holds `q` up if it is `k` time steps behind `q` and, for `k = 0`, comes first in rank: `q` has not reached the
  -- end, so `r` has not ended
  have blocker : ∀ r k, r < cfg.n → TT.time (s.sims r).progress + k ≤ TT.time (s.sims q).progress →
      (k = 0 → rank r < rank q) → TT.time (s.sims q).progress < cfg.until_ →
      ∃ r, r < cfg.n ∧ (s.sims r).pc ≠ .done ∧ Before s rank r q := by
    intro r k hrn hle hk hlt
    refine ⟨r, hrn, fun hd => ?_, .of_behind hle hk⟩
    have := reach_doneOk hr hnf r hd
    omega
  cases hpc : (s.sims q).pc with
  | init => exact absurd hpc (hstarted q hq)
  | inStep => exact absurd hpc (hidle q hq).1
  | inGet => exact absurd hpc (hidle q hq).2
  | done => exact absurd hpc hnd
  | awaitSettle a dl =>
    by_cases hwk : a ≤ (s.sims q).progress ∨ (s.sims q).newer = true ∨ timedOut dl s.clock = true
    · exact Or.inl (Or.inl ⟨q, wake_enabled_iff.mpr ⟨⟨hnf, hq⟩, a, dl, hpc, hwk⟩⟩)
    · right
      have ha : a = awaitTarget cfg s q :=
        (reach_awaitOk hr hnf q a dl hpc).resolve_left fun h => hwk (Or.inr (Or.inl h))
      have hplt : (s.sims q).progress < awaitTarget cfg s q := ha ▸ TT.not_le.mp fun h => hwk (Or.inl h)
      have hltend : (s.sims q).progress < cfg.endT q := TT.lt_of_lt_of_le hplt (awaitTarget_le_end cfg s q)
      have hptime : TT.time (s.sims q).progress < cfg.until_ := by
        have := (flat_lt (hlen q hq) (by rw [Cfg.endT, ofWorld_length, hfl.depth])).mp hltend
        rwa [Cfg.endT, time_ofWorld (by rw [hfl.depth]; omega)] at this
      have hup : (s.sims q).progress = minTT (cfg.endT q) (candidates cfg s q) :=
        reach_upToDate hw hr hnf hidle q hq (hstarted q hq)
      rcases minTT_mem (candidates cfg s q) (cfg.endT q) with h | h
      · rw [h] at hup
        rw [hup] at hltend
        exact absurd hltend (TT.lt_irrefl _)
      · rw [← hup] at h
        rcases (mem_candidates hw s q _).mp h with ⟨ad, had, f, hf, hx⟩ | h1 | h1
        · -- held up by a triggering ancestor
          have hrn : ad.1 < cfg.n := hw.ancRange q hq ad had
          obtain ⟨hc1, hl1⟩ := hfl.ancShape q hq ad had
          rw [front_none (hcurnone ad.1 hrn)] at hf
          have hrt := TT.time_mono ((hcore ad.1 hrn).le_next f (List.mem_of_mem_head? hf))
          have ht : TT.time (s.sims q).progress = TT.time f + tier ad.2.tiers 0 := by rw [hx, flat_act_time f hc1 hl1]
          exact blocker ad.1 (tier ad.2.tiers 0) hrn (by omega) (hfl.rankAnc q hq ad had) hptime
        · -- its own next step is the minimum: then it is awaited and reached
          unfold awaitTarget at hplt
          rw [h1] at hplt
          simp only at hplt
          rw [if_neg (TT.not_lt.mpr (hcore q hq).le_end)] at hplt
          exact absurd hplt (TT.lt_irrefl _)
        · rw [hcurnone q hq] at h1; cases h1
  | waitDeps t =>
    obtain ⟨hhead, hprog, htime⟩ := (hpcs q hq).waiting t hpc
    subst hprog
    cases hd : depsReady cfg s q (s.sims q).progress with
    | true =>
      left; right
      refine ⟨q, ?_⟩
      cases hn : (s.sims q).next with
      | nil => rw [hn] at hhead; cases hhead
      | cons c rest => rw [(Fires.deps q _ c rest hnf hq hpc hd hn).step]; rfl
    | false =>
      right
      -- a successor that has not reached the step
      have succCase : ∀ sd : Sid × TI, sd.1 < cfg.n → sd.2.cutoff = 1 ∧ sd.2.tiers = [0] →
          ¬ (TI.act (s.sims q).progress sd.2 ≤ (s.sims sd.1).progress) →
          ∃ r, r < cfg.n ∧ (s.sims r).pc ≠ .done ∧ Before s rank r q := by
        intro sd hbn ⟨hc, hz⟩ hnot
        have hlt := (flat_lt_act (hlen sd.1 hbn) hc (by rw [hz]; rfl)).mp (TT.not_le.mp hnot)
        rw [hz] at hlt
        exact blocker sd.1 1 hbn hlt (by omega) htime
      rcases not_depsReady hd with ⟨qd, hqd, hnot⟩ | ⟨sd, hsd, hnot⟩ | ⟨sd, hsd, hnot⟩
      · -- an input provider that has not passed the step
        obtain ⟨hc1, hl1⟩ := hfl.inputShape q hq qd hqd
        have hle := Nat.not_lt.mp (mt (flat_lt_act (hlen q hq) hc1 hl1).mpr hnot)
        exact blocker qd.1 _ (hfl.inputRange q hq qd hqd) hle (hfl.rankInput q hq qd hqd) htime
      · exact succCase sd (hfl.succWaitRange q hq sd hsd) (hfl.succWaitZero q hq sd hsd) hnot
      · exact succCase sd (hfl.succRange q hq sd hsd) (hfl.succZero q hq sd hsd) hnot

/-- following the blockers downwards ends at a simulator that can move -/
theorem moves_of_unfinished {cfg : Cfg} (hw : WFCfg cfg) (hs : WFShape cfg) {rank : Sid → Nat} (hfl : Flat cfg rank)
    {s : State} (hr : Reach cfg s) (hnf : s.failed = none) (hidle : Idle cfg s)
    (hstarted : ∀ q, q < cfg.n → (s.sims q).pc ≠ .init) :
    ∀ T R q, q < cfg.n → (s.sims q).pc ≠ .done → TT.time (s.sims q).progress = T → rank q = R → Moves cfg s := by
  intro T
  induction T using Nat.strongRecOn with
  | ind T ihT =>
    intro R
    induction R using Nat.strongRecOn with
    | ind R ihR =>
      intro q hq hnd hT hR
      rcases blocked_or_moves hw hs hfl hr hnf hidle hstarted hq hnd with h | ⟨r, hrn, hrnd, hbef⟩
      · exact h
      · rcases hbef with hlt | ⟨heq, hrk⟩
        · exact ihT _ (hT ▸ hlt) _ r hrn hrnd rfl rfl
        · exact ihR _ (hR ▸ hrk) r hrn hrnd (heq.trans hT) rfl

/-- **C05, deadlock freedom (flat configurations).**  In every reachable state that has not failed
and in which some simulator's process has not ended, the scheduler can take a transition (start a
process, wake a process waiting in `next_step_settled`, or let a process waiting for its
dependencies begin its step), or it is waiting for the answer of a simulator that is inside
`step` / `get_data`.  It never waits on a condition that cannot become true. -/
theorem deadlock_free_flat {cfg : Cfg} (hw : WFCfg cfg) (hs : WFShape cfg) {rank : Sid → Nat} (hfl : Flat cfg rank)
    {s : State} (hr : Reach cfg s) (hnf : s.failed = none) (hsome : ∃ p, p < cfg.n ∧ (s.sims p).pc ≠ .done) :
    (∃ p, (step cfg s (.start p)).isSome = true) ∨ Moves cfg s ∨
    (∃ p, p < cfg.n ∧ ((s.sims p).pc = .inStep ∨ (s.sims p).pc = .inGet)) := by
  by_cases hinit : ∃ q, q < cfg.n ∧ (s.sims q).pc = .init
  · obtain ⟨q, hq, hpc⟩ := hinit
    left
    refine ⟨q, ?_⟩
    rw [(Fires.start q hnf hq hpc).step]
    rfl
  · by_cases hbusy : ∃ q, q < cfg.n ∧ ((s.sims q).pc = .inStep ∨ (s.sims q).pc = .inGet)
    · exact Or.inr (Or.inr hbusy)
    · right; left
      have hidle : Idle cfg s := by
        intro q hq
        constructor
        · intro h; exact hbusy ⟨q, hq, Or.inl h⟩
        · intro h; exact hbusy ⟨q, hq, Or.inr h⟩
      have hstarted : ∀ q, q < cfg.n → (s.sims q).pc ≠ .init := fun q hq h => hinit ⟨q, hq, h⟩
      obtain ⟨p, hp, hnd⟩ := hsome
      exact moves_of_unfinished hw hs hfl hr hnf hidle hstarted _ _ p hp hnd rfl rfl

end Mosaik
