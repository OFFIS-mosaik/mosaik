/-
The data path of an asynchronous `get_data` (`MosaikRemote.get_data`, model: `asyncSlice` / `asyncFound` /
`asyncMissing` / `asyncAnswer` in `MosaikModel/Sched.lean`).

* the lookup laws of `OutData` (`get?` / `has` / `set`, folds of `set`): those of `Lemmas/Assoc.lean`
* `get?_asyncFound`, `mem_asyncMissing`, `found_or_missing`: every requested port is answered from the cache slice or forwarded, never both
* `asyncAnswer_found_kept`: a value found in the cache is in the answer unless the other simulator's reply mentions the very
  port; `asyncAnswer_direct`: what the other simulator replies for a port is in the answer (last mention wins)
* `asyncSlice_history`: with the cache on, in every run whose output times do not go back, the slice is the never-pruned
  history's entry for the time of the requester's running step (invariant `CacheRef`)
-/
import MosaikProofs.Sched.CacheRef
namespace Mosaik

namespace OutData

theorem get?_nil (k : Port) : get? [] k = none := rfl

theorem get?_cons (e : Port × Val) (d : OutData) (k : Port) :
    get? (e :: d) k = if e.1 = k then some e.2 else get? d k := assocGet_cons e d k

theorem has_eq (d : OutData) (k : Port) : has d k = (get? d k).isSome := any_eq_isSome_assocGet d k

theorem get?_set_same (d : OutData) (k : Port) (v : Val) : get? (set d k v) k = some v := assocGet_put_same d k v

theorem get?_set_other (d : OutData) (k k' : Port) (v : Val) (hne : k ≠ k') : get? (set d k v) k' = get? d k' :=
  assocGet_put_ne d v hne.symm

theorem foldl_set_other (es : OutData) (d : OutData) (k : Port) (h : ∀ e ∈ es, e.1 ≠ k) :
    get? (es.foldl (fun acc e => set acc e.1 e.2) d) k = get? d k :=
  assocGet_foldl_put_other Prod.fst Prod.snd es d k h

theorem foldl_set_last (pre : OutData) (e : Port × Val) (rest : OutData) (d : OutData) (hrest : ∀ f ∈ rest, f.1 ≠ e.1) :
    get? ((pre ++ e :: rest).foldl (fun acc e => set acc e.1 e.2) d) e.1 = some e.2 :=
  assocGet_foldl_put_last Prod.fst Prod.snd pre e rest d hrest

end OutData

theorem get?_asyncFound (cfg : Cfg) (s : State) (p target : Sid) (req : List Port) (r : Port) :
    OutData.get? (asyncFound cfg s p target req) r =
      if r ∈ req then OutData.get? (asyncSlice cfg s p target) r else none := by
  unfold asyncFound
  induction req with
  | nil => rfl
  | cons x req ih =>
    rw [List.filterMap_cons]
    by_cases hr : x = r
    · subst hr
      rw [if_pos List.mem_cons_self]
      cases hx : OutData.get? (asyncSlice cfg s p target) x with
      | none =>
        rw [Option.map_none, ih, hx, ite_self]
      | some v => exact (OutData.get?_cons _ _ _).trans (if_pos rfl)
    · simp only [List.mem_cons, Ne.symm hr, false_or]
      rw [← ih]
      cases OutData.get? (asyncSlice cfg s p target) x with
      | none => rfl
      | some v => exact (OutData.get?_cons _ _ _).trans (if_neg hr)

theorem mem_asyncMissing (cfg : Cfg) (s : State) (p target : Sid) (req : List Port) (r : Port) :
    r ∈ asyncMissing cfg s p target req ↔ r ∈ req ∧ OutData.get? (asyncSlice cfg s p target) r = none := by
  unfold asyncMissing
  rw [List.mem_filter, OutData.has_eq]
  cases OutData.get? (asyncSlice cfg s p target) r <;> simp

theorem found_or_missing (cfg : Cfg) (s : State) (p target : Sid) (req : List Port) (r : Port) (hr : r ∈ req) :
    (∃ v, OutData.get? (asyncFound cfg s p target req) r = some v ∧ r ∉ asyncMissing cfg s p target req) ∨
    (OutData.get? (asyncFound cfg s p target req) r = none ∧ r ∈ asyncMissing cfg s p target req) := by
  rw [get?_asyncFound, mem_asyncMissing]
  simp only [hr, if_true, true_and]
  cases h : OutData.get? (asyncSlice cfg s p target) r with
  | none => right; exact ⟨rfl, rfl⟩
  | some v => left; exact ⟨v, rfl, by simp⟩

theorem asyncMissing_nocache (cfg : Cfg) (s : State) (p target : Sid) (req : List Port) (hc : cfg.useCache = false) :
    asyncFound cfg s p target req = [] ∧ asyncMissing cfg s p target req = req := by
  have hs : asyncSlice cfg s p target = [] := by rw [asyncSlice, hc]; rfl
  unfold asyncFound asyncMissing
  rw [hs]
  exact ⟨List.filterMap_eq_nil_iff.mpr fun _ _ => rfl, List.filter_eq_self.mpr fun _ _ => rfl⟩

/-- nothing missing: the answer is what the cache holds; the other simulator is not asked -/
theorem asyncAnswer_all_cached (cfg : Cfg) (s : State) (p target : Sid) (req : List Port) (direct : OutData)
    (h : asyncMissing cfg s p target req = []) : asyncAnswer cfg s p target req direct = asyncFound cfg s p target req := by
  unfold asyncAnswer
  simp [h]

/-- the merge is `data.setdefault(full_id, {}).update(vals)`, not `data[full_id] = vals` -/
theorem asyncAnswer_found_kept (cfg : Cfg) (s : State) (p target : Sid) (req : List Port) (direct : OutData) (r : Port)
    (hd : ∀ e ∈ direct, e.1 ≠ r) :
    OutData.get? (asyncAnswer cfg s p target req direct) r = OutData.get? (asyncFound cfg s p target req) r := by
  unfold asyncAnswer
  simp only
  split
  · rfl
  · exact OutData.foldl_set_other direct _ r hd

theorem asyncAnswer_direct (cfg : Cfg) (s : State) (p target : Sid) (req : List Port) (pre rest : OutData) (e : Port × Val)
    (hm : asyncMissing cfg s p target req ≠ []) (hrest : ∀ f ∈ rest, f.1 ≠ e.1) :
    OutData.get? (asyncAnswer cfg s p target req (pre ++ e :: rest)) e.1 = some e.2 := by
  unfold asyncAnswer
  simp only
  split
  · rename_i h
    exact absurd (List.isEmpty_iff.mp h) hm
  · exact OutData.foldl_set_last pre e rest _ hrest

theorem maxShift_nonneg (cfg : Cfg) (q : Sid) : 0 ≤ maxShift cfg q :=
  foldl_ge (fun m a => (inner_max_ge q (cfg.sim a).pulled m).1) (List.range cfg.n) 0

theorem lastTime_le_asyncLookupTime (s : State) (p : Sid) : lastTime s p ≤ asyncLookupTime s p := by
  unfold asyncLookupTime lastTime
  cases (s.sims p).cur with
  | none => exact Int.le_refl _
  | some c => exact Int.le_max_left _ _

theorem asyncLookupTime_cur (s : State) (p : Sid) (c : TT) (hc : (s.sims p).cur = some c) (hl : lastTime s p ≤ (TT.time c : Int)) :
    asyncLookupTime s p = (TT.time c : Int) := by
  unfold asyncLookupTime
  unfold lastTime at hl
  rw [hc]
  simp only
  exact Int.max_eq_right hl

theorem asyncSlice_history {cfg : Cfg} (hw : WFCfg cfg) (hc : cfg.useCache = true) (hi : InitSorted cfg) {s : State}
    (hr : ReachM cfg s) (hnf : s.failed = none) {p target : Sid} (hp : p < cfg.n) (ht : target < cfg.n) :
    asyncSlice cfg s p target = getOutputFor (histOf cfg target s.log) (asyncLookupTime s p) := by
  have href := reachM_cacheRef hw hc hi hr hnf
  unfold asyncSlice
  simp only [hc, if_true]
  exact href.look target ht _ (Int.le_trans (Int.sub_le_self _ (maxShift_nonneg cfg target))
    (Int.le_trans (minLast_le cfg s hp) (lastTime_le_asyncLookupTime s p)))

end Mosaik
