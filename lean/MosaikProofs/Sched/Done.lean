/-
A simulator whose process has ended has reached the end of the simulation (used for deadlock
freedom, C05, and for `C02.complete_at_end`): `pc = done → until ≤ time progress`, in every reachable state that has not failed (`reach_doneOk`).
-/
import MosaikProofs.Sched.Settles
namespace Mosaik

def DoneOk (cfg : Cfg) (s : State) (q : Sid) : Prop := (s.sims q).pc = .done → cfg.until_ ≤ TT.time (s.sims q).progress

theorem doneOk_settles (cfg : Cfg) : Settles cfg (DoneOk cfg) where
  mono := fun h hpc _ _ hle hd => Nat.le_trans (h (hpc ▸ hd)) (TT.time_mono hle)
  of_schedule := fun b t h => by
    unfold DoneOk
    rw [schedule_sims]
    exact h
  -- `next_step_settled` ends the process only at the end of the simulation
  own_settle := fun s p hpc => by
    rw [settle_same] at hpc ⊢
    rcases settlePc_cases cfg s p with ⟨h, _⟩ | ⟨_, _, e⟩ | ⟨_, _, e⟩
    · exact h
    · rw [e] at hpc; cases hpc
    · rw [e] at hpc; cases hpc
  busy := fun h hpc => by
    rcases h with h | h <;> rw [h] at hpc <;> cases hpc
  init := fun q hpc => nomatch hpc

theorem reach_doneOk {cfg : Cfg} {s : State} (hr : Reach cfg s) : s.failed = none → ∀ q, DoneOk cfg s q :=
  (doneOk_settles cfg).reach hr

end Mosaik
