/-
What an action of one simulator can change about another simulator (frame lemma).

`step_other_own`: an action whose actor is `p` leaves, for every other simulator `q`, the program
counter, the step in flight, the steps begun, the remembered persistent inputs and — unless the action
is a `set_data` addressed to `q` — the pending `set_data` inputs untouched.  (What it may change about
`q`: raise its progress, schedule steps, set `newer_step`, push values into its input buffer, prune its
output cache.)

`step_bb`: what an action does to a simulator's input buffer and begun steps.

`step_other_due`: it also leaves the part of `q`'s input buffer that is due at `T` as it is, unless it
pushes a value due at or before `T`.

`depsReady_mono`: raising progress, which such an action may do, keeps the dependencies of `q` ready.
-/
import MosaikProofs.Sched.Blocks
namespace Mosaik

/-- the simulator that performs the action -/
def Action.actor : Action → Option Sid
  | .start p => some p
  | .wake p => some p
  | .deps p => some p
  | .setData p _ _ => some p
  | .getDataReq p _ => some p
  | .setEvent p _ => some p
  | .stepReply p _ => some p
  | .dataReply p _ => some p
  | .tick _ => none

def SimSt.own (x : SimSt) : PC × Option TT × List TT × InputData × InputData := (x.pc, x.cur, x.begun, x.persistent, x.setData)

/-- `q` keeps its own fields -/
def OwnEq (q : Sid) (s s' : State) : Prop := (s'.sims q).own = (s.sims q).own

theorem own_pc {x y : SimSt} (h : y.own = x.own) : y.pc = x.pc := congrArg (fun o => o.1) h
theorem own_begun {x y : SimSt} (h : y.own = x.own) : y.begun = x.begun := congrArg (fun o => o.2.2.1) h
theorem own_persistent {x y : SimSt} (h : y.own = x.own) : y.persistent = x.persistent := congrArg (fun o => o.2.2.2.1) h
theorem own_setData {x y : SimSt} (h : y.own = x.own) : y.setData = x.setData := congrArg (fun o => o.2.2.2.2) h

theorem finish_own (cfg : Cfg) (s : State) {p q : Sid} (c : TT) (h : q ≠ p) :
    ((finish cfg s p c).sims q).own = (s.sims q).own := by
  -- after `advance_progress` for everybody, only `p`'s program counter is written
  have hpc : ((finish cfg s p c).sims q).pc = ((advanceAll cfg (notify cfg (clearCur s p c) p)).sims q).pc := by
    rw [finish]
    by_cases hf : (advanceAll cfg (notify cfg (clearCur s p c) p)).failed.isSome = true
    · rw [if_pos hf]
    · rw [if_neg hf, settle_other _ _ h]
      by_cases hc : cfg.useCache = true
      · rw [if_pos hc, prune_sims]
      · rw [if_neg hc]
  unfold SimSt.own
  rw [hpc, finish_sims_adv, advanceAll_sims, notify_sims, clearCur_upd, State.upd_other _ _ h]

theorem afterStep_own (cfg : Cfg) (s : State) {p q : Sid} (c : TT) (h : q ≠ p) :
    ((afterStep cfg s p c).sims q).own = (s.sims q).own := by
  rcases afterStep_cases cfg s p c with ⟨_, e⟩ | ⟨_, _, e⟩ | ⟨_, e⟩ <;> rw [e]
  · rw [rtCheck_sims]
  · rw [finish_own cfg _ c h, rtCheck_sims]
  · rw [State.upd_other _ _ h, rtCheck_sims]

theorem step_other_own {cfg : Cfg} {s s' : State} {a : Action} {q : Sid} (h : step cfg s a = some s')
    (hact : a.actor ≠ some q) (hset : ∀ p e, a ≠ .setData p q e) : OwnEq q s s' := by
  have hne : ∀ p, a.actor = some p → q ≠ p := fun p hp e => hact (by rw [hp, e])
  unfold OwnEq
  cases step_fires h with
  | start p => rw [settled_other _ _ (hne p rfl), advance_other _ _ (hne p rfl)]
  | wake p => rw [settled_other _ _ (hne p rfl), woken_other _ _ (hne p rfl)]
  | deps p _ c rest =>
    have hqp := hne p rfl
    rw [beginStep_other cfg s p c rest hqp]
  | setDataRefused | getDataRefused | eventNotRt => rw [State.fail_sims]
  | setData p target entries =>
    have hqt : q ≠ target := fun e => hset p entries (by rw [e])
    rw [State.upd_other _ _ hqt]
  | getData => rfl
  | setEvent =>
    rw [schedule_sims]
    rfl
  | eventIgnored => rfl
  | stepReply p r c =>
    have hqp := hne p rfl
    rcases processStepReply_cases cfg s p c r with ⟨k, _, e⟩ | ⟨_, e⟩ <;> rw [e]
    · rw [State.fail_sims, stepped_sims]
      rfl
    · rw [afterStep_own cfg _ c hqp, replied_sims]
      rfl
  | dataReply p d c =>
    have hqp := hne p rfl
    rcases processDataReply_cases cfg s p c d with ⟨_, e⟩ | ⟨_, e⟩ <;> rw [e]
    · rw [State.fail_sims, gotReply_sims]
      rfl
    · rw [finish_own cfg _ c hqp, storeOutputs_sims, gotReply_sims]
      rfl
  | tick => rfl

/-- the input buffer and the steps begun -/
abbrev SimSt.bb (x : SimSt) : List BufEntry × List TT := (x.buffer, x.begun)

/-- The third case is an induction principle because `get_outputs` folds `insertBuf` over the pushed connections and the
result has no closed form: the caller chooses what to show of the buffer. -/
theorem step_bb {cfg : Cfg} {s s' : State} {a : Action} (h : step cfg s a = some s') (q : Sid) :
    (s'.sims q).bb = (s.sims q).bb ∨
    (∃ c, a = .deps q ∧ (s'.sims q).bb = ((bufferTake (s.sims q).buffer (TT.time c) []).2, c :: (s.sims q).begun)) ∨
    ∃ p d c, DataAccepted cfg s a p d c ∧ (s'.sims q).begun = (s.sims q).begun ∧
      ∀ P : List BufEntry → Prop, P (s.sims q).buffer →
        (∀ l e, P l → PushedBy cfg p q (outTimeOf c d).1 d e → P (insertBuf e l)) → P (s'.sims q).buffer := by
  cases step_fires h with
  | start p => exact Or.inl (by rw [settled_sims, advance_sims])
  | wake p => exact Or.inl (by rw [settled_sims, woken_sims])
  | deps p _ c rest =>
    by_cases hqp : q = p
    · subst hqp
      rcases beginStep_cases cfg s q c rest with ⟨_, _, e⟩ | ⟨_, _, e⟩ <;> rw [e]
      · exact Or.inl (by rw [State.fail_sims, State.upd_same])
      · exact Or.inr (Or.inl ⟨c, rfl, by rw [begunState_same]⟩)
    · exact Or.inl (by rw [beginStep_other cfg s p c rest hqp])
  | setDataRefused | getDataRefused | eventNotRt => exact Or.inl (by rw [State.fail_sims])
  | setData p target => exact Or.inl (State.upd_keeps SimSt.bb s target q fun _ => rfl)
  | getData => exact Or.inl rfl
  | setEvent => exact Or.inl (by rw [schedule_sims])
  | eventIgnored => exact Or.inl rfl
  | stepReply p r c =>
    left
    rcases processStepReply_cases cfg s p c r with ⟨k, _, e⟩ | ⟨_, e⟩ <;> rw [e]
    · rw [State.fail_sims, stepped_sims]
    · rw [afterStep_sims, replied_sims]
  | dataReply p d c _ hp _ hcur =>
    rcases processDataReply_cases cfg s p c d with ⟨_, e⟩ | ⟨hot, e⟩ <;> rw [e]
    · exact Or.inl (by rw [State.fail_sims, gotReply_sims])
    · refine Or.inr (Or.inr ⟨p, d, c, ⟨rfl, hp, hcur, hot⟩, by rw [finish_sims, storeOutputs_sims, gotReply_sims], ?_⟩)
      intro P h0 hins
      rw [finish_sims]
      apply storeOutputs_buffer_ind (hins := hins)
      rw [gotReply_sims]
      exact h0
  | tick => exact Or.inl rfl

/-- the entries a step at time `T` takes -/
def dueAt (T : Nat) (l : List BufEntry) : List BufEntry := l.filter (fun e => decide (e.time ≤ T))

theorem dueAt_insertBuf (T : Nat) (e : BufEntry) (he : ¬ e.time ≤ T) (l : List BufEntry) : dueAt T (insertBuf e l) = dueAt T l :=
  filter_insertBuf_of_neg _ e (decide_eq_false he) l

theorem step_other_due {cfg : Cfg} {s s' : State} {a : Action} {q : Sid} (T : Nat) (h : step cfg s a = some s')
    (hact : a.actor ≠ some q)
    (hpush : ∀ p d c, DataAccepted cfg s a p d c →
      ∀ pe ∈ (cfg.sim p).push, pe.2.1 = q → T < (outTimeOf c d).1.toNat + tier pe.2.2.1.tiers 0) :
    dueAt T (s'.sims q).buffer = dueAt T (s.sims q).buffer := by
  rcases step_bb h q with e | ⟨c, ha, _⟩ | ⟨p, d, c, hacc, _, hind⟩
  · rw [(Prod.mk.inj e).1]
  · rw [ha] at hact
    exact absurd rfl hact
  · apply hind (fun l => dueAt T l = dueAt T (s.sims q).buffer) rfl
    intro l e hl ⟨pe, hpe, hpq, _, _, het⟩
    have := hpush p d c hacc pe hpe hpq
    rw [dueAt_insertBuf T e (by omega), hl]

theorem depsReady_mono {cfg : Cfg} {s s' : State} (hm : ∀ r, (s.sims r).progress ≤ (s'.sims r).progress) {q : Sid} {t : TT}
    (h : depsReady cfg s q t = true) : depsReady cfg s' q t = true := by
  rw [depsReady_iff] at h ⊢
  exact ⟨fun qd hqd => TT.lt_of_lt_of_le (h.1 qd hqd) (TI.act_mono_left qd.2 (hm qd.1)),
    fun sd hsd => TT.le_trans (h.2.1 sd hsd) (hm sd.1), fun hl sd hsd => TT.le_trans (h.2.2 hl sd hsd) (hm sd.1)⟩

end Mosaik
