/-
Pruning the output cache does not change any lookup a later step can make (C03, cache path): `prune_dataflow_cache`
keeps the newest entry at or before the time still needed (to drop it is defect D8).

`getOutputFor l τ` returns the newest entry of `l` whose key (output time) is `≤ τ`.  The pruned
cache keeps every entry from the newest one at or before `needed` on.  For a cache whose keys
increase in insertion order (output times do not go back), every lookup at `τ ≥ needed` gives the
same entry before and after pruning (`prune_keeps_lookups`).  `needed` is the smallest time any
consumer can still ask for: `min last_step − max shift` (`prune_state_lookups`).
-/
import MosaikProofs.Lemmas.SchedBasics
namespace Mosaik

/-- the per-simulator part of `prune_dataflow_cache` -/
def pruneList (outputs : List (Int × OutData)) (needed : Int) : List (Int × OutData) :=
  let keepFrom : Int := match outputs.filter (fun (e : Int × OutData) => decide (e.1 ≤ needed)) with
    | [] => needed
    | e :: es => es.foldl (fun (m : Int) (e' : Int × OutData) => max m e'.1) e.1
  outputs.filter (fun (e : Int × OutData) => decide (e.1 ≥ keepFrom))

theorem foldl_ge {α : Type} {g : Int → α → Int} (hg : ∀ m a, m ≤ g m a) : ∀ (l : List α) (m : Int), m ≤ l.foldl g m := by
  intro l
  induction l with
  | nil => exact fun m => Int.le_refl m
  | cons a l ih => exact fun m => Int.le_trans (hg m a) (ih (g m a))

theorem foldl_ge_of_mem {α : Type} {g : Int → α → Int} (hg : ∀ m a, m ≤ g m a) {a : α} {v : Int} (hv : ∀ m, v ≤ g m a)
    (l : List α) (m : Int) (h : a ∈ l) : v ≤ l.foldl g m := by
  induction l generalizing m with
  | nil => cases h
  | cons b l ih =>
    rw [List.foldl_cons]
    rcases List.mem_cons.mp h with rfl | h
    · exact Int.le_trans (hv m) (foldl_ge hg l _)
    · exact ih _ h

theorem foldl_max_ge_mem (es : List (Int × OutData)) : ∀ (m : Int) (x : Int × OutData), x ∈ es →
    x.1 ≤ es.foldl (fun (m : Int) (e' : Int × OutData) => max m e'.1) m := by
  intro m x
  apply foldl_ge_of_mem
  · exact fun _ _ => Int.le_max_left _ _
  · exact fun _ => Int.le_max_right _ _

theorem foldl_max_le (B : Int) (es : List (Int × OutData)) (m : Int) (hm : m ≤ B) (h : ∀ x ∈ es, x.1 ≤ B) :
    es.foldl (fun (m : Int) (e' : Int × OutData) => max m e'.1) m ≤ B := by
  induction es generalizing m with
  | nil => exact hm
  | cons a es ih =>
    exact ih (max m a.1) (Int.max_le.mpr ⟨hm, h a List.mem_cons_self⟩) fun x hx => h x (List.mem_cons_of_mem _ hx)

def Sorted (l : List (Int × OutData)) : Prop := l.Pairwise (fun a b => a.1 < b.1)

theorem findRev?_none {α : Type} {p : α → Bool} {l : List α} (h : l.findRev? p = none) : ∀ y ∈ l, ¬ p y = true := by
  rw [List.findRev?_eq_find?_reverse, List.find?_eq_none] at h
  exact fun y hy => h y (List.mem_reverse.mpr hy)

theorem findRev?_sorted {τ : Int} {l : List (Int × OutData)} (hs : Sorted l) {e : Int × OutData}
    (h : l.findRev? (fun x => decide (x.1 ≤ τ)) = some e) : e ∈ l ∧ e.1 ≤ τ ∧ ∀ e' ∈ l, e'.1 ≤ τ → e'.1 ≤ e.1 := by
  induction l with
  | nil => cases h
  | cons a l ih =>
    have hs := List.pairwise_cons.mp hs
    rw [List.findRev?] at h
    cases hl : l.findRev? (fun x => decide (x.1 ≤ τ)) with
    | some x =>
      rw [hl] at h
      cases h
      obtain ⟨h1, h2, h3⟩ := ih hs.2 hl
      refine ⟨List.mem_cons_of_mem _ h1, h2, fun e' he' hle => ?_⟩
      rcases List.mem_cons.mp he' with rfl | he'
      · exact Int.le_of_lt (hs.1 e h1)
      · exact h3 e' he' hle
    | none =>
      rw [hl] at h
      by_cases hp : a.1 ≤ τ
      · rw [if_pos (decide_eq_true hp)] at h
        cases h
        refine ⟨List.mem_cons_self, hp, fun e' he' hle => ?_⟩
        rcases List.mem_cons.mp he' with rfl | he'
        · exact Int.le_refl _
        · exact absurd (decide_eq_true hle) (findRev?_none hl e' he')
      · rw [if_neg fun hd => hp (of_decide_eq_true hd)] at h
        cases h

theorem getOutputFor_sorted {l : List (Int × OutData)} (hs : Sorted l) (τ : Int) :
    (∃ e ∈ l, e.1 ≤ τ ∧ (∀ e' ∈ l, e'.1 ≤ τ → e'.1 ≤ e.1) ∧ getOutputFor l τ = e.2) ∨
    ((∀ e ∈ l, ¬ e.1 ≤ τ) ∧ getOutputFor l τ = []) := by
  unfold getOutputFor
  rw [← List.findRev?_eq_find?_reverse]
  cases hl : l.findRev? (fun x => decide (x.1 ≤ τ)) with
  | none => exact .inr ⟨fun e he hle => findRev?_none hl e he (decide_eq_true hle), rfl⟩
  | some e =>
    obtain ⟨hm, hle, hmax⟩ := findRev?_sorted hs hl
    exact .inl ⟨e, hm, hle, hmax, rfl⟩

theorem sorted_key_inj {l : List (Int × OutData)} (hs : Sorted l) {a b : Int × OutData} (ha : a ∈ l) (hb : b ∈ l)
    (hk : a.1 = b.1) : a = b :=
  List.Pairwise.forall_of_forall_of_flip (R := fun a b : Int × OutData => a.1 = b.1 → a = b) (fun _ _ _ => rfl)
    (hs.imp fun hlt hk => absurd (hk ▸ hlt) (Int.lt_irrefl _)) (hs.imp fun hlt hk => absurd (hk ▸ hlt) (Int.lt_irrefl _)) ha hb hk

theorem getOutputFor_eq_of {l l' : List (Int × OutData)} (hs : Sorted l) (hs' : Sorted l') (τ : Int)
    (hsub : ∀ e ∈ l', e.1 ≤ τ → e ∈ l)
    (hkeep : ∀ e ∈ l, e.1 ≤ τ → (∀ e' ∈ l, e'.1 ≤ τ → e'.1 ≤ e.1) → e ∈ l') : getOutputFor l' τ = getOutputFor l τ := by
  rcases getOutputFor_sorted hs τ with ⟨e, he, hle, hmax, hv⟩ | ⟨hnone, hv⟩ <;>
    rcases getOutputFor_sorted hs' τ with ⟨e', he', hle', hmax', hv'⟩ | ⟨hnone', hv'⟩ <;> rw [hv, hv']
  · have he'l := hsub e' he' hle'
    rw [sorted_key_inj hs he'l he (Int.le_antisymm (hmax e' he'l hle') (hmax' e (hkeep e he hle hmax) hle))]
  · exact absurd hle (hnone' e (hkeep e he hle hmax))
  · exact absurd hle' (hnone e' (hsub e' he' hle'))

theorem prune_keeps_lookups {l : List (Int × OutData)} (hs : Sorted l) (needed τ : Int) (hτ : needed ≤ τ) :
    getOutputFor (pruneList l needed) τ = getOutputFor l τ := by
  refine getOutputFor_eq_of hs (hs.sublist List.filter_sublist) τ (fun e he _ => (List.mem_filter.mp he).1) fun m hm1 _ hm3 => ?_
  -- the entry `m` found at `τ` is kept: no key `≤ needed` is larger than its key
  refine List.mem_filter.mpr ⟨hm1, decide_eq_true ?_⟩
  have hle : ∀ x ∈ l.filter (fun (e : Int × OutData) => decide (e.1 ≤ needed)), x.1 ≤ m.1 := fun x hx =>
    hm3 x (List.mem_filter.mp hx).1 (Int.le_trans (of_decide_eq_true (List.mem_filter.mp hx).2) hτ)
  cases hfl : l.filter (fun (e : Int × OutData) => decide (e.1 ≤ needed)) with
  | nil =>
    have := List.filter_eq_nil_iff.mp hfl m hm1
    exact Int.le_of_lt (Int.not_le.mp fun h => this (decide_eq_true h))
  | cons e es =>
    rw [hfl] at hle
    exact foldl_max_le m.1 es e.1 (hle e List.mem_cons_self) (fun x hx => hle x (List.mem_cons_of_mem _ hx))

/-- `last_step.time` of a simulator (−1 before its first step) -/
def lastTime (s : State) (p : Sid) : Int := match (s.sims p).last with | some t => (TT.time t : Int) | .none => -1

/-- the smallest `last_step.time` -/
def minLast (cfg : Cfg) (s : State) : Int := (List.range cfg.n).foldl (fun m p => min m (lastTime s p)) (lastTime s 0)

/-- the largest time shift of a cached connection out of `q` -/
def maxShift (cfg : Cfg) (q : Sid) : Int := (List.range cfg.n).foldl (fun m d =>
  (cfg.sim d).pulled.foldl (fun m (e : Sid × TI × Port × Port) =>
    if e.1 = q then max m (tier e.2.1.tiers 0 : Int) else m) m) 0

theorem prune_outputs (cfg : Cfg) (s : State) {q : Sid} (hq : q < cfg.n) :
    ((prune cfg s).sims q).outputs = pruneList (s.sims q).outputs (minLast cfg s - maxShift cfg q) := by
  unfold prune pruneList minLast maxShift lastTime
  simp only [hq, if_true]
  rfl

theorem foldl_min_le (f : Sid → Int) : ∀ (l : List Sid) (m : Int), l.foldl (fun m p => min m (f p)) m ≤ m ∧
    ∀ p ∈ l, l.foldl (fun m p => min m (f p)) m ≤ f p := by
  intro l
  induction l with
  | nil => intro m; exact ⟨Int.le_refl _, fun _ h => by cases h⟩
  | cons a l ih =>
    intro m
    simp only [List.foldl_cons]
    obtain ⟨h1, h2⟩ := ih (min m (f a))
    refine ⟨Int.le_trans h1 (Int.min_le_left _ _), ?_⟩
    intro p hp
    rcases List.mem_cons.mp hp with rfl | hp
    · exact Int.le_trans h1 (Int.min_le_right _ _)
    · exact h2 p hp

theorem minLast_le (cfg : Cfg) (s : State) {d : Sid} (hd : d < cfg.n) : minLast cfg s ≤ lastTime s d :=
  (foldl_min_le (lastTime s) (List.range cfg.n) (lastTime s 0)).2 d (List.mem_range.mpr hd)

theorem inner_max_ge (q : Sid) : ∀ (l : List (Sid × TI × Port × Port)) (m : Int),
    m ≤ l.foldl (fun m (e : Sid × TI × Port × Port) => if e.1 = q then max m (tier e.2.1.tiers 0 : Int) else m) m ∧
    ∀ e ∈ l, e.1 = q → (tier e.2.1.tiers 0 : Int) ≤
      l.foldl (fun m (e : Sid × TI × Port × Port) => if e.1 = q then max m (tier e.2.1.tiers 0 : Int) else m) m := by
  have hg : ∀ (m : Int) (e : Sid × TI × Port × Port), m ≤ if e.1 = q then max m (tier e.2.1.tiers 0 : Int) else m := by
    intro m e
    split
    · exact Int.le_max_left _ _
    · exact Int.le_refl _
  intro l m
  refine ⟨foldl_ge hg l m, fun e he heq => foldl_ge_of_mem hg (fun m => ?_) l m he⟩
  rw [if_pos heq]
  exact Int.le_max_right _ _

theorem maxShift_ge (cfg : Cfg) {q d : Sid} (hd : d < cfg.n) {e : Sid × TI × Port × Port} (he : e ∈ (cfg.sim d).pulled)
    (heq : e.1 = q) : (tier e.2.1.tiers 0 : Int) ≤ maxShift cfg q :=
  foldl_ge_of_mem (fun m a => (inner_max_ge q (cfg.sim a).pulled m).1) (fun m => (inner_max_ge q (cfg.sim d).pulled m).2 e he heq)
    (List.range cfg.n) 0 (List.mem_range.mpr hd)

/-- **pruning does not change what a consumer can still read**: `d` pulls from `q` over the cached connection `e`;
for every step time `c` of `d` at or after its last step, the cache lookup the step makes gives the same entry in
the pruned cache — provided `q`'s output times have not gone back (keys increase in insertion order) -/
theorem prune_state_lookups (cfg : Cfg) (s : State) {q d : Sid} (hq : q < cfg.n) (hd : d < cfg.n)
    {e : Sid × TI × Port × Port} (he : e ∈ (cfg.sim d).pulled) (heq : e.1 = q) (hsorted : Sorted (s.sims q).outputs)
    (c : Int) (hc : lastTime s d ≤ c) :
    getOutputFor ((prune cfg s).sims q).outputs (c - (tier e.2.1.tiers 0 : Int)) =
    getOutputFor (s.sims q).outputs (c - (tier e.2.1.tiers 0 : Int)) := by
  rw [prune_outputs cfg s hq]
  exact prune_keeps_lookups hsorted _ _ (Int.sub_le_sub (Int.le_trans (minLast_le cfg s hd) hc) (maxShift_ge cfg hd he heq))

end Mosaik
