/-
No late arrivals (C03, whole runs, flat configurations).

`BufOk`: every value waiting in a simulator's timed input buffer is due strictly after every step
that simulator has begun.  It holds in every reachable state of a flat configuration whose pushed
connections are covered by the input-delay table (`PushOk`).  With the building blocks of
`Properties/C03.lean`: a pushed value is never taken by a step before it is due, and the step that
takes it is the destination's *first* step at or after its due time.
-/
import MosaikProofs.Sched.Shape
import MosaikProofs.Sched.Others
namespace Mosaik

/-- pushed connections: target exists, the delay is a number of time steps and is covered by the
destination's minimal input delay from the source -/
structure PushOk (cfg : Cfg) : Prop where
  range : ∀ p, p < cfg.n → ∀ e ∈ (cfg.sim p).push, e.2.1 < cfg.n
  shape : ∀ p, p < cfg.n → ∀ e ∈ (cfg.sim p).push, e.2.2.1.cutoff = 1 ∧ e.2.2.1.tiers.length = 1
  covered : ∀ p, p < cfg.n → ∀ e ∈ (cfg.sim p).push, ∃ d0, (p, d0) ∈ (cfg.sim e.2.1).inputDelays ∧ TI.le d0 e.2.2.1

def BufOk (s : State) (q : Sid) : Prop := ∀ e ∈ (s.sims q).buffer, ∀ b ∈ (s.sims q).begun, TT.time b < e.time

theorem BufOk.congr {s s' : State} {q : Sid} (hq : BufOk s q) (h : (s'.sims q).bb = (s.sims q).bb) : BufOk s' q := by
  unfold BufOk
  rw [(Prod.mk.inj h).1, (Prod.mk.inj h).2]
  exact hq

theorem due_after {t cp : TT} {d0 sh : TI} {ot : Int} (hdep : t < TI.act cp d0) (hle : TI.le d0 sh) (htl : t.length = 1)
    (hc1 : sh.cutoff = 1) (hl1 : sh.tiers.length = 1) (hot : ¬ (TT.time cp : Int) > ot) :
    TT.time t < ot.toNat + tier sh.tiers 0 := by
  have hct : TT.time cp ≤ ot.toNat := by
    have := Int.toNat_le_toNat (Int.not_lt.mp hot)
    rwa [Int.toNat_natCast] at this
  exact Nat.lt_of_lt_of_le ((flat_lt_act htl hc1 hl1).mp (TT.lt_of_lt_of_le hdep (TI.act_mono_right cp hle)))
    (Nat.add_le_add_right hct _)

theorem step_bufOk {cfg : Cfg} (hw : WFCfg cfg) (hs : WFShape cfg) {rank : Sid → Nat} (hfl : Flat cfg rank) (hpo : PushOk cfg)
    {s s' : State} {a : Action} (hr : Reach cfg s) (hf0 : s.failed = none) (hb : ∀ q, q < cfg.n → BufOk s q)
    (h : step cfg s a = some s') : ∀ q, q < cfg.n → BufOk s' q := by
  intro q hq
  rcases step_bb h q with e | ⟨c, _, e⟩ | ⟨p, d, c, ⟨_, hp, hcur, hot⟩, hbeg, hind⟩
  · exact (hb q hq).congr e
  · intro x hx b hbb
    rw [(Prod.mk.inj e).1, bufferTake, List.mem_filter] at hx
    rw [(Prod.mk.inj e).2] at hbb
    rcases List.mem_cons.mp hbb with rfl | hbb
    · simpa using hx.2
    · exact hb q hq x hx.1 b hbb
  · obtain ⟨hcore, _⟩ := reach_good hw hr hf0
    unfold BufOk
    rw [hbeg]
    apply hind (fun l => ∀ e ∈ l, ∀ b ∈ (s.sims q).begun, TT.time b < e.time) (hb q hq)
    intro l e hl ⟨pe, hpe, hpq, _, _, het⟩ x hx b hbb
    rcases (mem_insertBuf e l x).mp hx with rfl | hx
    · -- a step begun lies before `p`'s progress, which is `c`, delayed by the input delay (`SimOk.inputs`)
      obtain ⟨d0, hd0, hle⟩ := hpo.covered p hp pe hpe
      obtain ⟨hc1, hl1⟩ := hpo.shape p hp pe hpe
      rw [het]
      have hdep : b < TI.act c d0 := (hcore p hp).cur_eq c hcur ▸ (hcore q hq).inputs b hbb (p, d0) (hpq ▸ hd0)
      have hlen : b.length = 1 := by rw [reach_begun_shape hw hs hr hf0 q b hbb, hfl.depth]
      exact due_after hdep hle hlen hc1 hl1 hot
    · exact hl x hx b hbb

/-- C03 along whole runs: nothing waits in an input buffer that a step already begun should have taken -/
theorem reach_bufOk {cfg : Cfg} (hw : WFCfg cfg) (hs : WFShape cfg) {rank : Sid → Nat} (hfl : Flat cfg rank) (hpo : PushOk cfg)
    {s : State} (hr : Reach cfg s) : s.failed = none → ∀ q, q < cfg.n → BufOk s q :=
  reach_induction_nf (I := fun s => ∀ q, q < cfg.n → BufOk s q)
    (fun q _ e he => by cases he)
    (fun hr hf0 hb h _ => step_bufOk hw hs hfl hpo hr hf0 hb h) hr

end Mosaik
