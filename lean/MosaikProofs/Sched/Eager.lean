/-
Lazy stepping switched off.  `lazy_` is read by `wait_for_dependencies` (`depsReady`) only, where it adds a condition: every
other block of the scheduler is the same function for `eager cfg` as for `cfg`.  The names are those of property C04, which
derives from this that every lazy run is an eager run.
-/
import MosaikProofs.Sched.Blocks
namespace Mosaik.C04

def eager (cfg : Cfg) : Cfg := { cfg with lazy_ := false }

theorem depsReady_eager (cfg : Cfg) (s : State) (p : Sid) (t : TT) (h : depsReady cfg s p t = true) :
    depsReady (eager cfg) s p t = true := by
  rw [depsReady_iff] at h ⊢
  exact ⟨h.1, h.2.1, nofun⟩

/-! Said block by block, each from the blocks it calls: `rfl` on a whole action would
compare the state a block returns again wherever the body of the next block mentions it. -/

theorem advance_eager (cfg : Cfg) : advance (eager cfg) = advance cfg := rfl
theorem advanceAll_eager (cfg : Cfg) : advanceAll (eager cfg) = advanceAll cfg := rfl
theorem notify_eager (cfg : Cfg) : notify (eager cfg) = notify cfg := rfl
theorem prune_eager (cfg : Cfg) : prune (eager cfg) = prune cfg := rfl
theorem rtCheck_eager (cfg : Cfg) : rtCheck (eager cfg) = rtCheck cfg := rfl
theorem storeOutputs_eager (cfg : Cfg) : storeOutputs (eager cfg) = storeOutputs cfg := rfl
theorem settle_eager (cfg : Cfg) : settle (eager cfg) = settle cfg := rfl

theorem finish_eager (cfg : Cfg) : finish (eager cfg) = finish cfg := by
  unfold finish
  rw [notify_eager, advanceAll_eager, prune_eager, settle_eager]
  rfl

theorem afterStep_eager (cfg : Cfg) : afterStep (eager cfg) = afterStep cfg := by
  unfold afterStep
  rw [rtCheck_eager, finish_eager]
  rfl

end Mosaik.C04
