/-
Cache on or off: the same function of the output history (C04, data level).

For one connection from `src` (source port `sport`, shift `sh`), read off the same log:
* the cache path delivers `(getOutputFor (histOf cfg src log) (c − sh))[sport]` (`C03.pull_refines_spec`)
* the push path delivers `lastVal ((pushHist src sport sh log).filter (due ≤ c)) d0` (`C03.begin_push_refines_spec`; here `d0 = none`)
`cache_push_agree`: these are equal for every log in which the source's reported output times do not go back and
every reply carries the attribute (`LogOk`, assumed of the log, derived for no run; a persistent attribute must always be
produced — mosaik warns otherwise), without initial data.
-/
import MosaikProofs.Sched.PushRef
import MosaikProofs.Sched.CacheRef
namespace Mosaik

/-- every `get_data` reply of `src` in the log carries `sport`, and output times do not go back (oldest first) -/
def LogOk (src : Sid) (sport : Port) : List Event → Prop
  | [] => True
  | .got p _ outTT data :: l =>
    (p = src → (OutData.get? data sport).isSome = true ∧ ∀ t ∈ gotTimes src l, t ≤ TT.time outTT) ∧ LogOk src sport l
  | .begin .. :: l => LogOk src sport l
  | .stepped .. :: l => LogOk src sport l
  | .finished .. :: l => LogOk src sport l
  | .done .. :: l => LogOk src sport l
  | .rtWarn .. :: l => LogOk src sport l
  | .eventIgnored .. :: l => LogOk src sport l

theorem histOf_keys (cfg : Cfg) (src : Sid) (h0 : (cfg.sim src).outputs0 = []) : ∀ (log : List Event) (e : Int × OutData),
    e ∈ histOf cfg src log → ∃ t ∈ gotTimes src log, e.1 = (t : Int) := by
  intro log e
  induction log with
  | nil => intro he; rw [histOf, h0] at he; cases he
  | cons ev l ih =>
    intro he
    cases ev with
    | got p c outTT data =>
      rw [gotTimes_got]
      unfold histOf at he
      split at he
      · rename_i hp
        rw [if_pos hp]
        rcases mem_cachePut.mp he with rfl | ⟨hin, _⟩
        · exact ⟨TT.time outTT, List.mem_cons_self, rfl⟩
        · obtain ⟨t, ht, het⟩ := ih hin
          exact ⟨t, List.mem_cons_of_mem _ ht, het⟩
      · rename_i hp
        rw [if_neg hp]
        exact ih he
    | _ => exact ih he

theorem histOf_le (cfg : Cfg) (src : Sid) (h0 : (cfg.sim src).outputs0 = []) {log : List Event} {T : Nat}
    (h : ∀ t ∈ gotTimes src log, t ≤ T) : ∀ e ∈ histOf cfg src log, e.1 ≤ (T : Int) := by
  intro e he
  obtain ⟨t, ht, het⟩ := histOf_keys cfg src h0 log e he
  rw [het]
  exact Int.ofNat_le.mpr (h t ht)

theorem histOf_sorted (cfg : Cfg) (src : Sid) (sport : Port) (h0 : (cfg.sim src).outputs0 = []) : ∀ (log : List Event),
    LogOk src sport log → Sorted (histOf cfg src log) := by
  intro log
  induction log with
  | nil => intro _; rw [histOf, h0]; exact List.Pairwise.nil
  | cons ev l ih =>
    intro hok
    cases ev with
    | got p c outTT data =>
      unfold histOf
      split
      · rename_i hp
        exact sorted_cachePut (ih hok.2) _ _ (histOf_le cfg src h0 (hok.1 hp).2)
      · exact ih hok.2
    | _ => exact ih hok

theorem cache_push_agree (cfg : Cfg) (src : Sid) (sport : Port) (sh : Nat) (h0 : (cfg.sim src).outputs0 = []) (c : Nat) :
    ∀ (log : List Event), LogOk src sport log →
      (OutData.get? (getOutputFor (histOf cfg src log) ((c : Int) - (sh : Int))) sport).getD none =
        lastVal ((pushHist src sport sh log).filter (fun x => decide (x.1 ≤ c))) none := by
  intro log
  induction log with
  | nil => intro _; rw [histOf, h0]; rfl
  | cons ev l ih =>
    intro hok
    cases ev with
    | got p cc outTT data =>
      have ih := ih hok.2
      unfold histOf pushHist
      split
      · rename_i hp
        obtain ⟨hsome, hmono⟩ := hok.1 hp
        obtain ⟨v, hv⟩ := Option.isSome_iff_exists.mp hsome
        rw [hv, lookup_cachePut (histOf_sorted cfg src sport h0 l hok.2) _ _ (histOf_le cfg src h0 hmono), List.filter_append]
        have hiff : (TT.time outTT : Int) ≤ (c : Int) - (sh : Int) ↔ TT.time outTT + sh ≤ c :=
          Int.add_le_iff_le_sub.symm.trans Int.ofNat_le
        by_cases hdue : TT.time outTT + sh ≤ c
        · rw [if_pos (hiff.mpr hdue), hv, List.filter_cons_of_pos (by simpa using hdue), List.filter_nil, lastVal_append_single]
          rfl
        · rw [if_neg (mt hiff.mp hdue), ih, List.filter_cons_of_neg (by simpa using hdue), List.filter_nil, List.append_nil]
      · exact ih
    | _ => exact ih hok

end Mosaik
