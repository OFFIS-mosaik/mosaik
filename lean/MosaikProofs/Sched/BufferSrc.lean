/-
Nothing is invented, nothing is attributed to another source (C03, all configurations).

`step_buffer_sources`: an action adds an entry to a simulator's input buffer only as follows — the
action is the `get_data` reply `d` of a simulator `p`, the entry belongs to one of `p`'s pushed
connections to that simulator, carries exactly the value `d` holds for the connection's source port,
is keyed by (destination port, `p`, source entity) and is stamped with the reply's output time plus
the connection's time shift (`PushedBy`).
-/
import MosaikProofs.Sched.Others
namespace Mosaik

theorem step_buffer_sources {cfg : Cfg} {s s' : State} {a : Action} (h : step cfg s a = some s') (q : Sid) :
    ∀ e ∈ (s'.sims q).buffer, e ∈ (s.sims q).buffer ∨
      ∃ p d c, a = .dataReply p d ∧ (s.sims p).cur = some c ∧ PushedBy cfg p q (outTimeOf c d).1 d e := by
  rcases step_bb h q with e | ⟨c, _, e⟩ | ⟨p, d, c, hacc, _, hind⟩
  · rw [(Prod.mk.inj e).1]
    exact fun x hx => Or.inl hx
  · rw [(Prod.mk.inj e).1, bufferTake]
    exact fun x hx => Or.inl (List.mem_filter.mp hx).1
  · apply hind (fun l => ∀ e ∈ l, e ∈ (s.sims q).buffer ∨
      ∃ p d c, a = .dataReply p d ∧ (s.sims p).cur = some c ∧ PushedBy cfg p q (outTimeOf c d).1 d e) (fun x hx => Or.inl hx)
    intro l e hl hpe x hx
    rcases (mem_insertBuf e l x).mp hx with rfl | hx
    · exact Or.inr ⟨p, d, c, hacc.action, hacc.cur, hpe⟩
    · exact hl x hx

end Mosaik
