/-
Runs (`exec`): reachability, failure is absorbing, monotonicity along a run.
-/
import MosaikProofs.Sched.Reach
namespace Mosaik

/-- C13.absorbing, model level: after `run()` has failed no action is enabled -/
theorem step_none_of_failed {cfg : Cfg} {s : State} (h : s.failed.isSome = true) (a : Action) : step cfg s a = none := by
  cases hs : step cfg s a with
  | none => rfl
  | some s' => rw [(step_fires hs).not_failed] at h; cases h

theorem reach_induction_nf {cfg : Cfg} {I : State → Prop} (h0 : I (initState cfg))
    (hstep : ∀ {s s' a}, Reach cfg s → s.failed = none → I s → step cfg s a = some s' → s'.failed = none → I s')
    {s : State} (hr : Reach cfg s) (hnf : s.failed = none) : I s := by
  induction hr with
  | init => exact h0
  | @step s s' a hr hs ih =>
    have hf0 := (step_fires hs).not_failed
    exact hstep hr hf0 (ih hf0) hs hnf

theorem exec_cons {cfg : Cfg} {s s' : State} {a : Action} {as : List Action} (h : exec cfg s (a :: as) = some s') :
    ∃ s1, step cfg s a = some s1 ∧ exec cfg s1 as = some s' := by
  simp only [exec] at h
  cases hs : step cfg s a with
  | none => rw [hs] at h; cases h
  | some s1 => rw [hs] at h; exact ⟨s1, rfl, h⟩

theorem exec_append {cfg : Cfg} : ∀ (l1 l2 : List Action) (s : State),
    exec cfg s (l1 ++ l2) = (exec cfg s l1).bind (fun s' => exec cfg s' l2) := by
  intro l1 l2
  induction l1 with
  | nil => exact fun _ => rfl
  | cons a l1 ih =>
    intro s
    simp only [List.cons_append, exec]
    cases step cfg s a with
    | none => rfl
    | some s1 => exact ih s1

theorem exec_ind {cfg : Cfg} {P : State → List Action → State → Prop} (hnil : ∀ s, P s [] s)
    (hcons : ∀ {s s1 s' : State} {a : Action} {as : List Action}, step cfg s a = some s1 → exec cfg s1 as = some s' →
      P s1 as s' → P s (a :: as) s') :
    ∀ (as : List Action) {s s' : State}, exec cfg s as = some s' → P s as s' := by
  intro as
  induction as with
  | nil => intro s s' h; cases h; exact hnil s
  | cons a as ih =>
    intro s s' h
    obtain ⟨s1, hs, h⟩ := exec_cons h
    exact hcons hs h (ih h)

theorem exec_reach {cfg : Cfg} : ∀ (as : List Action) {s s' : State}, Reach cfg s → exec cfg s as = some s' → Reach cfg s' :=
  fun as _ _ hr h =>
    exec_ind (P := fun s _ s' => Reach cfg s → Reach cfg s') (fun _ hr => hr) (fun hs _ ih hr => ih (Reach.step hr hs)) as h hr

theorem exec_not_failed {cfg : Cfg} {as : List Action} {s1 s' : State}
    (h : exec cfg s1 as = some s') (hnf : s'.failed = none) : s1.failed = none := by
  cases as with
  | nil => cases h; exact hnf
  | cons b bs =>
    obtain ⟨s2, hs2, _⟩ := exec_cons h
    exact (step_fires hs2).not_failed

theorem step_mono {cfg : Cfg} (hw : WFCfg cfg) {s s' : State} {a : Action} (hr : Reach cfg s)
    (h : step cfg s a = some s') (hnf : s'.failed = none) :
    (∀ q, (s.sims q).progress ≤ (s'.sims q).progress) ∧ ∀ q, ∀ b ∈ (s.sims q).begun, b ∈ (s'.sims q).begun := by
  rcases later_or_begins hw (reach_good hw hr) h hnf with hl | ⟨p, c, hbs⟩
  · exact ⟨hl.progress, fun q b hb => by rw [hl.begun q]; exact hb⟩
  · refine ⟨fun q => TT.le_of_eq (hbs.progress q).symm, fun q b hb => ?_⟩
    by_cases hq : q = p
    · subst hq; rw [hbs.begun]; exact List.mem_cons_of_mem _ hb
    · rw [hbs.others q hq]; exact hb

theorem exec_mono {cfg : Cfg} (hw : WFCfg cfg) : ∀ (as : List Action) {s s' : State}, Reach cfg s →
    exec cfg s as = some s' → s'.failed = none →
    (∀ q, (s.sims q).progress ≤ (s'.sims q).progress) ∧ (∀ q, ∀ b ∈ (s.sims q).begun, b ∈ (s'.sims q).begun) := by
  intro as s s' hr h hnf
  refine exec_ind (P := fun s _ s' => Reach cfg s → s'.failed = none →
    (∀ q, (s.sims q).progress ≤ (s'.sims q).progress) ∧ (∀ q, ∀ b ∈ (s.sims q).begun, b ∈ (s'.sims q).begun)) ?_ ?_ as h hr hnf
  · exact fun _ _ _ => ⟨fun _ => TT.le_refl _, fun _ _ hb => hb⟩
  · intro s s1 s' a as hs h ih hr hnf
    obtain ⟨h1, h2⟩ := step_mono hw hr hs (exec_not_failed h hnf)
    obtain ⟨ih1, ih2⟩ := ih (Reach.step hr hs) hnf
    exact ⟨fun q => TT.le_trans (h1 q) (ih1 q), fun q b hb => ih2 q b (h2 q b hb)⟩

/-- the one place where `begun` grows -/
theorem begun_sources {cfg : Cfg} (hw : WFCfg cfg) {s s' : State} {a : Action} (hr : Reach cfg s)
    (h : step cfg s a = some s') (hnf : s'.failed = none) (p : Sid) (b : TT) (hb : b ∈ (s'.sims p).begun) :
    b ∈ (s.sims p).begun ∨ Ready cfg s p b := by
  rcases later_or_begins hw (reach_good hw hr) h hnf with hl | ⟨q, c, hbs⟩
  · rw [hl.begun] at hb
    exact Or.inl hb
  · by_cases hpq : p = q
    · subst hpq
      rw [hbs.begun] at hb
      rcases List.mem_cons.mp hb with rfl | hb
      · exact Or.inr hbs.ready
      · exact Or.inl hb
    · rw [hbs.others p hpq] at hb
      exact Or.inl hb

/-- what held of every step when it could begin holds of every step begun -/
theorem begun_ind {cfg : Cfg} (hw : WFCfg cfg) {Q : Sid → TT → Prop}
    (hQ : ∀ {s : State} {p : Sid} {c : TT}, Reach cfg s → s.failed = none → Ready cfg s p c → Q p c)
    {s : State} (hr : Reach cfg s) : s.failed = none → ∀ p, ∀ b ∈ (s.sims p).begun, Q p b :=
  reach_induction_nf (I := fun s => ∀ p, ∀ b ∈ (s.sims p).begun, Q p b)
    (fun _ _ hb => (List.not_mem_nil hb).elim)
    (fun hr hf ih h hnf p b hb => (begun_sources hw hr h hnf p b hb).elim (ih p b) (hQ hr hf)) hr

end Mosaik
