/-
What a simulator waiting in `next_step_settled` waits for (used for deadlock freedom, C05).

`AwaitOk cfg s q`: if `q` waits for its progress to reach `a`, then either a newer (earlier) step has
been announced since (`newer_step` is set, the wait ends) or `a` still is the time the code would
compute now: the earliest scheduled step, capped by the end of the simulation.  Holds in every
reachable state that has not failed (`reach_awaitOk`), for every configuration.
-/
import MosaikProofs.Sched.Settles
namespace Mosaik

def AwaitOk (cfg : Cfg) (s : State) (q : Sid) : Prop :=
  ∀ a dl, (s.sims q).pc = .awaitSettle a dl → (s.sims q).newer = true ∨ a = awaitTarget cfg s q

/-- a newly scheduled step is earlier than the awaited one (`newer_step` is set), or leaves the earliest step as it is -/
theorem schedule_awaitOk {cfg : Cfg} {s : State} {q : Sid} (b : Sid) (t : TT) (hq : AwaitOk cfg s q) :
    AwaitOk cfg (schedule s b t) q := by
  by_cases hqb : q = b
  · subst hqb
    unfold schedule
    simp only
    split
    · exact hq
    · intro a dl hpc
      simp only [State.upd_same] at hpc ⊢
      rcases hq a dl hpc with hn | ha
      · left; simp [hn]
      · cases hh : (s.sims q).next.head? with
        | none => left; simp
        | some h =>
          by_cases hlt : t < h
          · left; simp [hlt]
          · right
            rw [ha, awaitTarget, awaitTarget, State.upd_same, head_insertSorted, hh]
            simp [hlt]
  · unfold AwaitOk awaitTarget
    rw [schedule_other _ _ hqb]
    exact hq

theorem awaitOk_settles (cfg : Cfg) : Settles cfg (AwaitOk cfg) where
  mono := fun h hpc hnx hnw _ a dl ha => by
    rw [hpc] at ha
    rw [hnw, awaitTarget, hnx]
    exact h a dl ha
  of_schedule := schedule_awaitOk
  -- `next_step_settled` sets the awaited time afresh
  own_settle := fun s p a dl hpc => by
    right
    rw [settle_same] at hpc
    rcases settlePc_cases cfg s p with ⟨_, e⟩ | ⟨_, _, e⟩ | ⟨_, _, e⟩ <;> rw [e] at hpc <;> cases hpc
    rw [awaitTarget, awaitTarget, settle_same]
  busy := fun h a dl hpc => by
    rcases h with h | h <;> rw [h] at hpc <;> cases hpc
  init := fun q a dl hpc => nomatch hpc

theorem reach_awaitOk {cfg : Cfg} {s : State} (hr : Reach cfg s) : s.failed = none → ∀ q, AwaitOk cfg s q :=
  (awaitOk_settles cfg).reach hr

end Mosaik
