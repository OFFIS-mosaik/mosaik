/-
Progress is up to date whenever no step is in flight (used for deadlock freedom, C05).

`advance_progress` is called for every simulator at the end of every step, and for the simulator
itself when its process starts.  Consequently, in every reachable state that has not failed and in which no simulator is
inside `step`/`get_data` (not in real-time mode: `WFCfg`), the progress of every started simulator *equals* the value
`advance_progress` would compute now (`reach_upToDate`): the minimum of the end of the simulation,
its own earliest scheduled step and, for every triggering ancestor, that ancestor's earliest
scheduled step delayed by the minimal trigger-path delay.

`Fresh cfg s q` says this of one simulator.  `advance_progress(q)` makes `q` fresh, and it keeps everybody else
fresh because it writes progress only, which the computed value does not read.
-/
import MosaikProofs.Sched.Trace
namespace Mosaik

theorem newProgress_congr {cfg : Cfg} (hw : WFCfg cfg) {s s' : State} (hcur : ∀ x, (s'.sims x).cur = (s.sims x).cur)
    (hnext : ∀ x, (s'.sims x).next = (s.sims x).next) (q : Sid) : newProgress cfg s' q = newProgress cfg s q := by
  have hfront : ∀ x, front (s'.sims x) = front (s.sims x) := fun x => front_congr (hcur x) (hnext x)
  unfold newProgress candidates
  rw [rtCap_nil hw, rtCap_nil hw, hcur q, hnext q]
  simp only [hfront]

/-- the progress of `q` is the value `advance_progress` would compute now -/
def Fresh (cfg : Cfg) (s : State) (q : Sid) : Prop := (s.sims q).progress = newProgress cfg s q

/-- the fields `Fresh` reads -/
abbrev SimSt.cand (x : SimSt) : TT × Option TT × List TT := (x.progress, x.cur, x.next)

theorem cand_progress {x y : SimSt} (h : y.cand = x.cand) : y.progress = x.progress := congrArg (fun c => c.1) h
theorem cand_cur {x y : SimSt} (h : y.cand = x.cand) : y.cur = x.cur := congrArg (fun c => c.2.1) h
theorem cand_next {x y : SimSt} (h : y.cand = x.cand) : y.next = x.next := congrArg (fun c => c.2.2) h

theorem Fresh.congr {cfg : Cfg} (hw : WFCfg cfg) {s s' : State} {q : Sid} (hq : Fresh cfg s q)
    (h : ∀ x, (s'.sims x).cand = (s.sims x).cand) : Fresh cfg s' q := by
  unfold Fresh
  rw [cand_progress (h q), newProgress_congr hw (fun x => cand_cur (h x)) (fun x => cand_next (h x)) q]
  exact hq

theorem settle_fresh {cfg : Cfg} (hw : WFCfg cfg) {s : State} (p : Sid) {q : Sid} (hq : Fresh cfg s q) :
    Fresh cfg (settle cfg s p) q :=
  hq.congr hw fun x => by rw [settle_sims]

theorem advance_fresh {cfg : Cfg} (hw : WFCfg cfg) {s : State} {p q : Sid} (hnf : (advance cfg s p).failed = none)
    (hq : q ≠ p → Fresh cfg s q) : Fresh cfg (advance cfg s p) q := by
  have hnew : newProgress cfg (advance cfg s p) q = newProgress cfg s q :=
    newProgress_congr hw (fun x => by rw [advance_sims]) (fun x => by rw [advance_sims]) q
  unfold Fresh
  rw [hnew, advance_nf hnf, State.upd_sims]
  split
  · rename_i hqp; rw [hqp]
  · rename_i hqp; exact hq hqp

/-- the invariant of the loop: `a`'s pass is still to come, or `Q` holds -/
theorem foldl_pass {α σ : Type} {Q : σ → Prop} {f : σ → α → σ} {a : α} (hpass : ∀ st b, (a ≠ b → Q st) → Q (f st b)) :
    ∀ (l : List α) (s : σ), a ∈ l ∨ Q s → Q (l.foldl f s) := by
  intro l
  induction l with
  | nil => exact fun s h => h.elim (fun h => (List.not_mem_nil h).elim) id
  | cons b l ih =>
    intro s h
    refine ih (f s b) ?_
    rcases h with h | h
    · rcases List.mem_cons.mp h with rfl | h
      · exact Or.inr (hpass s a fun hne => absurd rfl hne)
      · exact Or.inl h
    · exact Or.inr (hpass s b fun _ => h)

theorem advanceAll_fresh {cfg : Cfg} (hw : WFCfg cfg) {s : State} (hnf : (advanceAll cfg s).failed = none) {q : Sid}
    (hq : q < cfg.n) : Fresh cfg (advanceAll cfg s) q := by
  refine foldl_pass (Q := fun st => st.failed = none → Fresh cfg st q) (fun st b hold hnf => ?_) _ s
    (Or.inl (List.mem_range.mpr hq)) hnf
  obtain ⟨hf, e⟩ := ite_failed_nf hnf
  rw [e] at hnf ⊢
  exact advance_fresh hw hnf fun hqb => hold hqb hf

theorem finish_fresh {cfg : Cfg} (hw : WFCfg cfg) {s : State} (p : Sid) (c : TT) (hnf : (finish cfg s p c).failed = none)
    {q : Sid} (hq : q < cfg.n) : Fresh cfg (finish cfg s p c) q := by
  rw [(finish_nf hnf).2]
  apply settle_fresh hw
  split
  · exact (advanceAll_fresh hw (finish_nf hnf).1 hq).congr hw fun x => by rw [prune_sims]
  · exact advanceAll_fresh hw (finish_nf hnf).1 hq

/-- no simulator is inside `step` / `get_data` -/
def Idle (cfg : Cfg) (s : State) : Prop := ∀ q, q < cfg.n → (s.sims q).pc ≠ .inStep ∧ (s.sims q).pc ≠ .inGet

def UpToDate (cfg : Cfg) (s : State) : Prop :=
  Idle cfg s → ∀ q, q < cfg.n → (s.sims q).pc ≠ .init → (s.sims q).progress = newProgress cfg s q

theorem upToDate_of_busy {cfg : Cfg} {s : State} {p : Sid} (hp : p < cfg.n)
    (h : (s.sims p).pc = .inStep ∨ (s.sims p).pc = .inGet) : UpToDate cfg s := by
  intro hidle
  rcases h with h | h
  · exact absurd h (hidle p hp).1
  · exact absurd h (hidle p hp).2

theorem Idle.before {cfg : Cfg} {s s' : State} {p : Sid} (h : Idle cfg s')
    (hp : (s.sims p).pc ≠ .inStep ∧ (s.sims p).pc ≠ .inGet) (ho : ∀ x, x ≠ p → (s'.sims x).pc = (s.sims x).pc) : Idle cfg s := by
  intro x hx
  by_cases hxp : x = p
  · rw [hxp]; exact hp
  · rw [← ho x hxp]; exact h x hx

theorem afterStep_upToDate {cfg : Cfg} (hw : WFCfg cfg) {s : State} {p : Sid} (hp : p < cfg.n) (c : TT)
    (hnf : (afterStep cfg s p c).failed = none) : UpToDate cfg (afterStep cfg s p c) := by
  rcases afterStep_cases cfg s p c with ⟨hf, e⟩ | ⟨_, _, e⟩ | ⟨_, e⟩ <;> rw [e] at hnf ⊢
  · exact absurd hnf hf
  · exact fun _ q hq _ => finish_fresh hw p c hnf hq
  · exact upToDate_of_busy hp (Or.inr (by rw [State.upd_same]))

/-- `next_step_settled` of `p`, which is not inside `step` / `get_data`, after a block from `s` to `s1` that writes no program counter.
`hfresh`: to show `q` fresh in `s1` one may use that it was fresh in `s`, unless `q` is `p` and `p` had not started. -/
theorem settle_upToDate {cfg : Cfg} (hw : WFCfg cfg) {s s1 : State} {p : Sid} (hu : UpToDate cfg s)
    (hp : (s.sims p).pc ≠ .inStep ∧ (s.sims p).pc ≠ .inGet) (hpc : ∀ x, (s1.sims x).pc = (s.sims x).pc)
    (hfresh : ∀ q, ((q = p → (s.sims p).pc ≠ .init) → Fresh cfg s q) → Fresh cfg s1 q) : UpToDate cfg (settle cfg s1 p) := by
  have ho : ∀ x, x ≠ p → ((settle cfg s1 p).sims x).pc = (s.sims x).pc := fun x hx => by rw [settle_other _ _ hx, hpc]
  intro hidle q hq hninit
  refine settle_fresh hw p (hfresh q fun hstarted => hu (hidle.before hp ho) q hq ?_)
  by_cases hqp : q = p
  · rw [hqp]; exact hstarted hqp
  · rw [← ho q hqp]; exact hninit

theorem step_upToDate {cfg : Cfg} (hw : WFCfg cfg) {s s' : State} {a : Action} (hu : UpToDate cfg s)
    (h : step cfg s a = some s') (hnf : s'.failed = none) : UpToDate cfg s' := by
  have hrt : cfg.rt.isSome = false := by rw [hw.noRt]; rfl
  cases step_fires h with
  | start p _ _ hpc =>
    obtain ⟨hnf1, e⟩ := settled_nf hnf
    rw [e]
    exact settle_upToDate hw hu (by rw [hpc]; exact ⟨nofun, nofun⟩) (fun x => by rw [advance_sims])
      fun q hq0 => advance_fresh hw hnf1 fun hqp => hq0 fun e => absurd e hqp
  | wake p _ _ _ _ hpc =>
    rw [woken_of_noRt hw.noRt] at hnf ⊢
    rw [(settled_nf hnf).2]
    exact settle_upToDate hw hu (by rw [hpc]; exact ⟨nofun, nofun⟩) (fun x => State.upd_keeps SimSt.pc s p x fun _ => rfl)
      fun q hq0 => (hq0 fun _ => by rw [hpc]; nofun).congr hw fun x => State.upd_keeps SimSt.cand s p x fun _ => rfl
  | deps p _ c rest _ hp => exact upToDate_of_busy hp (Or.inl (by rw [(beginStep_nf hnf).2.2, begunState_same]))
  | setDataRefused | getDataRefused | eventNotRt => exact absurd hnf (State.fail_ne_none _ _)
  | setData p target _ _ hp hpc =>
    exact upToDate_of_busy hp (Or.inl (hpc ▸ State.upd_keeps SimSt.pc s target p fun _ => rfl))
  | getData => exact hu
  | setEvent _ _ _ _ hrt' => rw [hrt] at hrt'; cases hrt'
  | eventIgnored _ _ _ _ hrt' => rw [hrt] at hrt'; cases hrt'
  | stepReply p r c _ hp =>
    have e := (processStepReply_nf hnf).2
    rw [e] at hnf ⊢
    exact afterStep_upToDate hw hp c hnf
  | dataReply p d c =>
    have e := (processDataReply_nf hnf).2
    rw [e] at hnf ⊢
    exact fun _ q hq _ => finish_fresh hw p c hnf hq
  | tick _ _ hrt' => rw [hrt] at hrt'; cases hrt'

/-- **progress is up to date in every reachable quiescent state** -/
theorem reach_upToDate {cfg : Cfg} (hw : WFCfg cfg) {s : State} (hr : Reach cfg s) : s.failed = none → UpToDate cfg s :=
  reach_induction_nf (I := UpToDate cfg) (fun _ _ _ hninit => absurd rfl hninit)
    (fun _ _ hu h hnf => step_upToDate hw hu h hnf) hr

end Mosaik
