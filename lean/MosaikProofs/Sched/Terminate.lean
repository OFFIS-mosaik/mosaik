/-
Termination (C05): a run cannot go on for ever.

Every action other than the simulators' asynchronous requests strictly decreases a potential that is
bounded by a function of the configuration, so the length of a run without asynchronous requests is
bounded (`run_length_bounded`).  The potential of a simulator combines
* how much of its life cycle is still ahead (its process not yet started, steps not yet begun — at
  most `until · max_loop^(depth−1)` by `steps_bounded` —, answers to `step` / `get_data` not yet
  received), weighted `n + 1`, and
* whether its process, waiting in `next_step_settled`, can be woken right now.
A wake-up uses up the second part and cannot be repeated before another action has happened; every
other action uses up at least one unit of the first part and can make at most every other process
wakeable.
-/
import MosaikProofs.Sched.Others
import MosaikProofs.Sched.Bound
namespace Mosaik

def sumTo : Nat → (Nat → Nat) → Nat
  | 0, _ => 0
  | n + 1, f => sumTo n f + f n

theorem sumTo_le_add {f g : Nat → Nat} (d n : Nat) (h : ∀ q, q < n → f q ≤ g q + d) : sumTo n f ≤ sumTo n g + n * d := by
  induction n with
  | zero => exact Nat.zero_le _
  | succ n ih =>
    rw [sumTo, sumTo, Nat.succ_mul, Nat.add_add_add_comm]
    exact Nat.add_le_add (ih fun q hq => h q (Nat.lt_succ_of_lt hq)) (h n (Nat.lt_succ_self n))

theorem sumTo_le {f g : Nat → Nat} (n : Nat) (h : ∀ q, q < n → f q ≤ g q) : sumTo n f ≤ sumTo n g := by
  have := sumTo_le_add 0 n h
  rwa [Nat.mul_zero] at this

/-- One summand falls by `k`, every other one rises by at most `d`.  To avoid the subtraction the statement has `n * d` on the right and, for the summand that does not rise, `d` on the left. -/
theorem sumTo_change {f f' : Nat → Nat} (k d n p : Nat) (hp : p < n) (hpd : f' p + k ≤ f p)
    (hq : ∀ q, q < n → q ≠ p → f' q ≤ f q + d) : sumTo n f' + k + d ≤ sumTo n f + n * d := by
  induction n with
  | zero => cases hp
  | succ n ih =>
    rw [sumTo, sumTo, Nat.succ_mul]
    by_cases hpn : p = n
    · subst hpn
      have hfirst : sumTo p f' ≤ sumTo p f + p * d :=
        sumTo_le_add d p fun q hq' => hq q (Nat.lt_succ_of_lt hq') (Nat.ne_of_lt hq')
      clear ih hq hp
      omega
    · have hfirst : sumTo n f' + k + d ≤ sumTo n f + n * d :=
        ih (Nat.lt_of_le_of_ne (Nat.le_of_lt_succ hp) hpn) fun q hq' hne => hq q (Nat.lt_succ_of_lt hq') hne
      have hlast : f' n ≤ f n + d := hq n (Nat.lt_succ_self n) fun e => hpn e.symm
      clear ih hq hp hpd hpn
      omega

/-- how far a simulator has come in its life cycle: 1 for the started process, 3 for every step begun, less the answers
(`step`, `get_data`) the step in flight still waits for -/
def lifeDone (x : SimSt) : Nat :=
  (if x.pc = .init then 0 else 1) + 3 * x.begun.length - (match x.pc with | .inStep => 2 | .inGet => 1 | _ => 0)

/-- the most it can reach -/
def lifeCap (cfg : Cfg) (p : Sid) : Nat := 1 + 3 * (cfg.until_ * cfg.maxLoop ^ ((cfg.sim p).depth - 1))

/-- the process can be woken now -/
def wakeable (cfg : Cfg) (s : State) (p : Sid) : Bool := (step cfg s (.wake p)).isSome

def potential (cfg : Cfg) (s : State) (p : Sid) : Nat :=
  (cfg.n + 1) * (lifeCap cfg p - lifeDone (s.sims p)) + (if wakeable cfg s p then 1 else 0)

def totalPotential (cfg : Cfg) (s : State) : Nat := sumTo cfg.n (potential cfg s)

/-- program counters a process has after `next_step_settled` -/
def SettledPc : PC → Prop
  | .done => True
  | .waitDeps _ => True
  | .awaitSettle _ _ => True
  | _ => False

theorem lifeDone_init {x : SimSt} (h : x.pc = .init) : lifeDone x = 3 * x.begun.length := by
  unfold lifeDone
  rw [h]
  exact Nat.zero_add _

theorem lifeDone_settled {x : SimSt} (h : SettledPc x.pc) : lifeDone x = 1 + 3 * x.begun.length := by
  unfold lifeDone
  cases hpc : x.pc with
  | done => rfl
  | waitDeps _ => rfl
  | awaitSettle _ _ => rfl
  | init => rw [hpc] at h; exact h.elim
  | inStep => rw [hpc] at h; exact h.elim
  | inGet => rw [hpc] at h; exact h.elim

theorem lifeDone_inStep {x : SimSt} (h : x.pc = .inStep) (hlen : 0 < x.begun.length) : lifeDone x + 1 = 3 * x.begun.length := by
  unfold lifeDone
  rw [h]
  show 1 + 3 * x.begun.length - 2 + 1 = 3 * x.begun.length
  omega

theorem lifeDone_inGet {x : SimSt} (h : x.pc = .inGet) : lifeDone x = 3 * x.begun.length := by
  unfold lifeDone
  rw [h]
  exact Nat.add_sub_cancel_left 1 _

theorem lifeDone_to_settled {x y : SimSt} (hx : lifeDone x = 3 * x.begun.length) (hy : SettledPc y.pc) (hb : y.begun = x.begun) :
    lifeDone x + 1 ≤ lifeDone y := by
  rw [hx, lifeDone_settled hy, hb]
  exact Nat.le_of_eq (Nat.add_comm _ _)

theorem lifeDone_begin {x y : SimSt} {c : TT} (hx : SettledPc x.pc) (hy : y.pc = .inStep) (hb : y.begun = c :: x.begun) :
    lifeDone x + 1 ≤ lifeDone y := by
  have hy' := lifeDone_inStep hy (by rw [hb]; exact Nat.succ_pos _)
  rw [hb, List.length_cons] at hy'
  rw [lifeDone_settled hx]
  omega

theorem lifeDone_stepped {x y : SimSt} (hx : x.pc = .inStep) (hlen : 0 < x.begun.length)
    (hy : y.pc = .inGet ∨ SettledPc y.pc) (hb : y.begun = x.begun) : lifeDone x + 1 ≤ lifeDone y := by
  rw [lifeDone_inStep hx hlen]
  rcases hy with hy | hy
  · rw [lifeDone_inGet hy, hb]
    exact Nat.le_refl _
  · rw [lifeDone_settled hy, hb]
    exact Nat.le_add_left _ _

theorem lifeDone_le (x : SimSt) : lifeDone x ≤ 1 + 3 * x.begun.length :=
  calc lifeDone x ≤ (if x.pc = .init then 0 else 1) + 3 * x.begun.length := Nat.sub_le _ _
    _ ≤ 1 + 3 * x.begun.length := Nat.add_le_add_right (by split <;> omega) _

theorem lifeDone_le_cap {cfg : Cfg} (hw : WFCfg cfg) (hs : WFShape cfg) {s : State} (hr : Reach cfg s) (hnf : s.failed = none)
    {p : Sid} (hp : p < cfg.n) : lifeDone (s.sims p) ≤ lifeCap cfg p :=
  calc lifeDone (s.sims p) ≤ 1 + 3 * (s.sims p).begun.length := lifeDone_le _
    _ ≤ lifeCap cfg p := Nat.add_le_add_left (Nat.mul_le_mul_left 3 (steps_bounded hw hs hr hnf p hp)) 1

theorem wakeBit_le (cfg : Cfg) (s : State) (p : Sid) : (if wakeable cfg s p = true then 1 else 0) ≤ 1 := by
  split <;> omega

theorem potential_le (cfg : Cfg) (s : State) (p : Sid) : potential cfg s p ≤ (cfg.n + 1) * lifeCap cfg p + 1 := by
  have hahead : lifeCap cfg p - lifeDone (s.sims p) ≤ lifeCap cfg p := Nat.sub_le _ _
  exact Nat.add_le_add (Nat.mul_le_mul_left _ hahead) (wakeBit_le cfg s p)

/-! `potential` is a weighted part `(n + 1) * ahead` plus a bit: what a change of either does to the sum -/

theorem weighted_fall {A A' n b b' : Nat} (hA : A' + (n + 1) ≤ A) (hb : b' ≤ 1) : A' + b' + n ≤ A + b := by
  omega

theorem bit_rise {A b b' : Nat} (hb : b' ≤ 1) : A + b' ≤ A + b + 1 := by
  omega

theorem potential_drop {cfg : Cfg} {s s' : State} {p : Sid} (hgain : lifeDone (s.sims p) + 1 ≤ lifeDone (s'.sims p))
    (hcap : lifeDone (s'.sims p) ≤ lifeCap cfg p) : potential cfg s' p + cfg.n ≤ potential cfg s p := by
  have hlt : lifeDone (s.sims p) < lifeDone (s'.sims p) := hgain
  have hahead : lifeCap cfg p - lifeDone (s'.sims p) + 1 ≤ lifeCap cfg p - lifeDone (s.sims p) :=
    Nat.sub_lt_sub_left (Nat.lt_of_lt_of_le hlt hcap) hlt
  have hmul := Nat.mul_le_mul_left (cfg.n + 1) hahead
  rw [Nat.mul_succ] at hmul
  unfold potential
  exact weighted_fall hmul (wakeBit_le cfg s' p)

theorem potential_rise {cfg : Cfg} {s s' : State} {q : Sid} (h : lifeDone (s'.sims q) = lifeDone (s.sims q)) :
    potential cfg s' q ≤ potential cfg s q + 1 := by
  unfold potential
  rw [h]
  exact bit_rise (wakeBit_le cfg s' q)

theorem settlePc_settled (cfg : Cfg) (s : State) (p : Sid) : SettledPc (settlePc cfg s p) := by
  rcases settlePc_cases cfg s p with ⟨_, e⟩ | ⟨_, _, e⟩ | ⟨_, _, e⟩ <;> rw [e] <;> trivial

theorem finish_settled {cfg : Cfg} {s : State} {p : Sid} {c : TT} (hnf : (finish cfg s p c).failed = none) :
    SettledPc ((finish cfg s p c).sims p).pc := by
  rw [(finish_nf hnf).2, settle_same]
  exact settlePc_settled cfg _ p

theorem afterStep_pc {cfg : Cfg} {s : State} {p : Sid} {c : TT} (hnf : (afterStep cfg s p c).failed = none) :
    ((afterStep cfg s p c).sims p).pc = .inGet ∨ SettledPc ((afterStep cfg s p c).sims p).pc := by
  rcases afterStep_cases cfg s p c with ⟨hf, e⟩ | ⟨_, _, e⟩ | ⟨_, e⟩ <;> rw [e] at hnf ⊢
  · exact absurd hnf hf
  · exact Or.inr (finish_settled hnf)
  · exact Or.inl (by rw [State.upd_same])

/-- the actions that are not asynchronous requests of a simulator (and not clock ticks) -/
def Action.sched : Action → Prop
  | .start _ => True
  | .wake _ => True
  | .deps _ => True
  | .stepReply _ _ => True
  | .dataReply _ _ => True
  | _ => False

theorem actor_life {cfg : Cfg} {s s' : State} {a : Action} (hc : Core cfg s) (h : step cfg s a = some s')
    (hnf : s'.failed = none) (hs : a.sched) (hnw : ∀ p, a ≠ .wake p) :
    ∃ p, a.actor = some p ∧ p < cfg.n ∧ lifeDone (s.sims p) + 1 ≤ lifeDone (s'.sims p) := by
  cases step_fires h with
  | start p _ hp hpc =>
    refine ⟨p, rfl, hp, lifeDone_to_settled (lifeDone_init hpc) ?_ (by rw [settled_sims, advance_sims])⟩
    rw [(settled_nf hnf).2, settle_same]
    exact settlePc_settled cfg _ p
  | wake p => exact absurd rfl (hnw p)
  | deps p t c rest _ hp hpc =>
    rw [(beginStep_nf hnf).2.2]
    exact ⟨p, rfl, hp, lifeDone_begin (c := c) (by rw [hpc]; trivial) (by rw [begunState_same]) (by rw [begunState_same])⟩
  | stepReply p r c _ hp hpc hcur =>
    have e := (processStepReply_nf hnf).2
    rw [e] at hnf ⊢
    -- the step in flight has begun
    have hlen := List.length_pos_of_mem ((hc p hp).cur_begun c hcur)
    exact ⟨p, rfl, hp, lifeDone_stepped hpc hlen (afterStep_pc hnf) (by rw [afterStep_sims, replied_sims])⟩
  | dataReply p d c _ hp hpc =>
    have e := (processDataReply_nf hnf).2
    rw [e] at hnf ⊢
    exact ⟨p, rfl, hp, lifeDone_to_settled (lifeDone_inGet hpc) (finish_settled hnf)
      (by rw [finish_sims, storeOutputs_sims, gotReply_sims])⟩
  | setDataRefused | setData | getDataRefused | getData | eventNotRt | setEvent | eventIgnored | tick => cases hs

theorem wakeable_congr {cfg : Cfg} {s s' : State} {q : Sid} (hf : s'.failed = s.failed) (hc : s'.clock = s.clock)
    (hq : s'.sims q = s.sims q) : wakeable cfg s' q = wakeable cfg s q := by
  unfold wakeable
  rw [Bool.eq_iff_iff, wake_enabled_iff, wake_enabled_iff, hf, hc, hq]

theorem settle_not_wakeable {cfg : Cfg} (hw : WFCfg cfg) {s : State} {p : Sid} (hp : p < cfg.n)
    (hle : ∀ t ∈ (s.sims p).next, (s.sims p).progress ≤ t) (hnewer : (s.sims p).newer = false) :
    wakeable cfg (settle cfg s p) p = false := by
  cases hwk : wakeable cfg (settle cfg s p) p with
  | false => rfl
  | true =>
    exfalso
    obtain ⟨_, a, dl, hpc, hcond⟩ := wake_enabled_iff.mp hwk
    rw [settle_same] at hpc hcond
    rw [settle_state] at hcond
    have hpc : settlePc cfg s p = .awaitSettle a dl := hpc
    rcases settlePc_cases cfg s p with ⟨_, e⟩ | ⟨_, _, e⟩ | ⟨hlt, hne, e⟩
    · rw [e] at hpc; cases hpc
    · rw [e] at hpc; cases hpc
    · rw [e] at hpc
      cases hpc
      have hend : (s.sims p).progress < cfg.endT p :=
        TT.lt_of_time_lt (by rw [Cfg.endT, time_ofWorld (hw.depth p hp)]; exact hlt)
      rcases hcond with h | h | h
      · -- the time awaited lies after the progress
        apply TT.lt_irrefl _ (TT.lt_of_lt_of_le _ h)
        unfold awaitTarget
        cases hh : (s.sims p).next.head? with
        | none => exact hend
        | some h0 =>
          simp only
          split
          · exact hend
          · rcases TT.le_iff_lt_or_eq.mp (hle h0 (List.mem_of_mem_head? hh)) with h1 | h1
            · exact h1
            · exact absurd (by rw [hh, h1]) hne
      · rw [hnewer] at h; cases h
      · rw [hw.noRt] at h; cases h

theorem wake_effect {cfg : Cfg} (hw : WFCfg cfg) {s s' : State} {p : Sid} (hc : Core cfg s)
    (h : step cfg s (.wake p) = some s') (hnf : s'.failed = none) :
    p < cfg.n ∧ potential cfg s' p + 1 ≤ potential cfg s p ∧ ∀ q, q ≠ p → potential cfg s' q = potential cfg s q := by
  have hwk : wakeable cfg s p = true := by unfold wakeable; rw [h]; rfl
  cases step_fires h with
  | wake _ a dl _ hp hpc =>
    rw [woken_of_noRt hw.noRt] at hnf ⊢
    rw [(settled_nf hnf).2]
    have hother : ∀ q, q ≠ p → (settle cfg (s.upd p fun x => { x with newer := false }) p).sims q = s.sims q :=
      fun q hqp => by rw [settle_other _ _ hqp, State.upd_other _ _ hqp]
    unfold potential
    refine ⟨hp, ?_, fun q hqp => ?_⟩
    · rw [lifeDone_settled (by rw [settle_same]; exact settlePc_settled cfg _ p), lifeDone_settled (by rw [hpc]; trivial),
        settle_same, State.upd_same, hwk,
        settle_not_wakeable hw hp (by rw [State.upd_same]; exact (hc p hp).le_next) (by rw [State.upd_same])]
      exact Nat.le_refl _
    · rw [hother q hqp, wakeable_congr (by rw [settle_state]; rfl) (by rw [settle_state]; rfl) (hother q hqp)]

theorem lifeDone_of_ownEq {q : Sid} {s s' : State} (h : OwnEq q s s') : lifeDone (s'.sims q) = lifeDone (s.sims q) := by
  unfold lifeDone
  rw [own_pc h, own_begun h]

theorem potential_falls {cfg : Cfg} (hw : WFCfg cfg) (hs : WFShape cfg) {s s' : State} {a : Action} (hr : Reach cfg s)
    (h : step cfg s a = some s') (hnf : s'.failed = none) (hsch : a.sched) :
    totalPotential cfg s' + 1 ≤ totalPotential cfg s := by
  obtain ⟨hcore, _⟩ := reach_good hw hr (step_fires h).not_failed
  unfold totalPotential
  by_cases hwake : ∃ p, a = .wake p
  · obtain ⟨p, rfl⟩ := hwake
    obtain ⟨hp, hdrop, hoth⟩ := wake_effect hw hcore h hnf
    have := sumTo_change 1 0 cfg.n p hp hdrop fun q _ hqp => Nat.le_of_eq (hoth q hqp)
    rwa [Nat.mul_zero] at this
  · obtain ⟨p, hact, hp, hgain⟩ := actor_life hcore h hnf hsch fun p e => hwake ⟨p, e⟩
    have hsum := sumTo_change cfg.n 1 cfg.n p hp
      (potential_drop hgain (lifeDone_le_cap hw hs (Reach.step hr h) hnf hp))
      (fun q _ hqp => potential_rise (lifeDone_of_ownEq (step_other_own h
        (by rw [hact]; exact fun e => hqp (Option.some.inj e).symm) (fun p' e' ha' => by rw [ha'] at hsch; cases hsch))))
    -- `hsum : total' + n + 1 ≤ total + n * 1`: the `n` the actor lost pays for the unit each of the others may have gained
    omega

theorem potential_decreases {cfg : Cfg} (hw : WFCfg cfg) (hs : WFShape cfg) {s s' : State} {a : Action} (hr : Reach cfg s)
    (hnf0 : s.failed = none) (h : step cfg s a = some s') (hnf : s'.failed = none) (hsch : a.sched) :
    totalPotential cfg s' + 1 ≤ totalPotential cfg s :=
  potential_falls hw hs hr h hnf hsch

theorem run_length_from {cfg : Cfg} (hw : WFCfg cfg) (hs : WFShape cfg) : ∀ (as : List Action) {s s' : State},
    exec cfg s as = some s' → Reach cfg s → s'.failed = none → (∀ a ∈ as, a.sched) →
    as.length + totalPotential cfg s' ≤ totalPotential cfg s := by
  refine exec_ind (fun _ _ _ _ => Nat.le_of_eq (Nat.zero_add _)) ?_
  intro s s1 s' a as hst h ih hr hnf hsch
  have h1 := potential_falls hw hs hr hst (exec_not_failed h hnf) (hsch a List.mem_cons_self)
  have h2 := ih (Reach.step hr hst) hnf fun b hb => hsch b (List.mem_cons_of_mem _ hb)
  rw [List.length_cons, Nat.add_right_comm]
  exact Nat.le_trans (Nat.add_le_add_right h2 1) h1

def runBound (cfg : Cfg) : Nat := sumTo cfg.n (fun p => (cfg.n + 1) * lifeCap cfg p + 1)

/-- **C05, termination.**  A run from the initial state that has not failed and contains no asynchronous request of a
simulator (`set_data`, `get_data`, `set_event`) has at most `totalPotential cfg (initState cfg)` actions (`run_length_from`),
a number bounded by the configuration alone (`potential_le`). -/
theorem run_length_bounded {cfg : Cfg} (hw : WFCfg cfg) (hs : WFShape cfg) (as : List Action) {s : State}
    (he : exec cfg (initState cfg) as = some s) (hnf : s.failed = none) (hsch : ∀ a ∈ as, a.sched) :
    as.length ≤ runBound cfg :=
  calc as.length ≤ as.length + totalPotential cfg s := Nat.le_add_right _ _
    _ ≤ totalPotential cfg (initState cfg) := run_length_from hw hs as he Reach.init hnf hsch
    _ ≤ runBound cfg := sumTo_le cfg.n fun p _ => potential_le cfg _ p

end Mosaik
