/-
Shapes: every scheduled step and every step in flight of a simulator has as many tiers as the
simulator's group depth says (`reach_shape`), for configurations whose trigger delays have the
length of the triggered simulator's times (`WFShape`, what `connect_interval` produces).  So has the progress in a
quiescent state (`progress_length`, through `reach_upToDate` of `Sched/Quiescent.lean`) and every step begun
(`reach_begun_shape`).
-/
import MosaikProofs.Sched.Sources
import MosaikProofs.Sched.Quiescent
namespace Mosaik

structure WFShape (cfg : Cfg) : Prop where
  trigLen : ∀ x, x < cfg.n → ∀ tr ∈ (cfg.sim x).triggers, tr.2.2.tiers.length = (cfg.sim tr.2.1).depth
  ancLen : ∀ q, q < cfg.n → ∀ ad ∈ (cfg.sim q).trigAnc, ad.2.tiers.length = (cfg.sim q).depth
  next0Len : ∀ p, ∀ t ∈ (cfg.sim p).next0, t.length = (cfg.sim p).depth

/-- the shape of `next` and `cur` -/
def ShapeNC (cfg : Cfg) (s : State) : Prop :=
  ∀ p, (∀ x ∈ (s.sims p).next, x.length = (cfg.sim p).depth) ∧ (∀ c, (s.sims p).cur = some c → c.length = (cfg.sim p).depth)

theorem step_shape {cfg : Cfg} (hw : WFCfg cfg) (hs : WFShape cfg) {s s' : State} {a : Action} (h0 : ShapeNC cfg s)
    (h : step cfg s a = some s') : ShapeNC cfg s' := by
  have hnext : ∀ p, ∀ x ∈ (s'.sims p).next, x.length = (cfg.sim p).depth := by
    intro p x hx
    rcases step_sources h p x hx with h1 | ⟨n, c, _, _, _, _, hxe⟩ | ⟨q, c, tr, data, outT, hqn, _, htr, hb, _, hxe, _⟩ | ⟨t, _, hrt⟩
    · exact (h0 p).1 x h1
    · rw [hxe, ofWorld_length]
    · rw [hxe, TI.act_length, hs.trigLen q hqn tr htr, hb]
    · rw [hw.noRt] at hrt; cases hrt
  intro p
  refine ⟨hnext p, ?_⟩
  intro c hc
  rcases step_cur_sources h p c hc with h1 | h1
  · exact (h0 p).2 c h1
  · exact (h0 p).1 c (List.mem_of_mem_head? h1)

theorem reach_shape {cfg : Cfg} (hw : WFCfg cfg) (hs : WFShape cfg) {s : State} (hr : Reach cfg s) : ShapeNC cfg s := by
  induction hr with
  | init =>
    intro p
    constructor
    · exact hs.next0Len p
    · exact fun c hc => nomatch hc
  | @step s s' a _ hstep ih => exact step_shape hw hs ih hstep

theorem progress_length {cfg : Cfg} (hw : WFCfg cfg) (hs : WFShape cfg) {s : State} (hr : Reach cfg s) (hnf : s.failed = none)
    (hidle : Idle cfg s) {q : Sid} (hq : q < cfg.n) (hninit : (s.sims q).pc ≠ .init) :
    (s.sims q).progress.length = (cfg.sim q).depth := by
  rw [reach_upToDate hw hr hnf hidle q hq hninit]
  have hsh := reach_shape hw hs hr
  unfold newProgress
  rcases minTT_mem (candidates cfg s q) (cfg.endT q) with h | h
  · rw [h]; exact ofWorld_length _ _
  · rcases (mem_candidates hw s q _).mp h with ⟨ad, had, f, _, hx⟩ | h1 | h1
    · rw [hx, TI.act_length, hs.ancLen q hq ad had]
    · exact (hsh q).1 _ (List.mem_of_mem_head? h1)
    · exact (hsh q).2 _ h1

theorem reach_begun_shape {cfg : Cfg} (hw : WFCfg cfg) (hs : WFShape cfg) {s : State} (hr : Reach cfg s) :
    s.failed = none → ∀ p, ∀ b ∈ (s.sims p).begun, b.length = (cfg.sim p).depth :=
  begun_ind hw (fun hr _ h => (reach_shape hw hs hr _).1 _ (List.mem_of_mem_head? h.head)) hr

/-- no simulator groups (every time has one tier, every delay is a number of time steps), every connection table refers to
existing simulators, the intervals used for lazy stepping and asynchronous requests are zero, and `rank` orders the
simulators along the zero-delay connections: there is no data-flow cycle without a time shift, which is what
`ensure_no_dataflow_cycles` accepts -/
structure Flat (cfg : Cfg) (rank : Sid → Nat) : Prop where
  depth : ∀ p, (cfg.sim p).depth = 1
  inputRange : ∀ p, p < cfg.n → ∀ qd ∈ (cfg.sim p).inputDelays, qd.1 < cfg.n
  succRange : ∀ p, p < cfg.n → ∀ sd ∈ (cfg.sim p).succs, sd.1 < cfg.n
  succWaitRange : ∀ p, p < cfg.n → ∀ sd ∈ (cfg.sim p).succsWait, sd.1 < cfg.n
  inputShape : ∀ p, p < cfg.n → ∀ qd ∈ (cfg.sim p).inputDelays, qd.2.cutoff = 1 ∧ qd.2.tiers.length = 1
  ancShape : ∀ p, p < cfg.n → ∀ ad ∈ (cfg.sim p).trigAnc, ad.2.cutoff = 1 ∧ ad.2.tiers.length = 1
  succZero : ∀ p, p < cfg.n → ∀ sd ∈ (cfg.sim p).succs, sd.2.cutoff = 1 ∧ sd.2.tiers = [0]
  succWaitZero : ∀ p, p < cfg.n → ∀ sd ∈ (cfg.sim p).succsWait, sd.2.cutoff = 1 ∧ sd.2.tiers = [0]
  /-- no zero-delay cycle: zero-delay connections go up in rank -/
  rankInput : ∀ p, p < cfg.n → ∀ qd ∈ (cfg.sim p).inputDelays, tier qd.2.tiers 0 = 0 → rank qd.1 < rank p
  rankAnc : ∀ p, p < cfg.n → ∀ ad ∈ (cfg.sim p).trigAnc, tier ad.2.tiers 0 = 0 → rank ad.1 < rank p

theorem Flat.rank_congr {cfg : Cfg} {rank rank' : Sid → Nat} (h : Flat cfg rank) (hr : ∀ p, p < cfg.n → rank' p = rank p)
    (hanc : ∀ p, p < cfg.n → ∀ ad ∈ (cfg.sim p).trigAnc, ad.1 < cfg.n) : Flat cfg rank' :=
  { h with
    rankInput := fun p hp qd hqd hz => by rw [hr p hp, hr qd.1 (h.inputRange p hp qd hqd)]; exact h.rankInput p hp qd hqd hz
    rankAnc := fun p hp ad had hz => by rw [hr p hp, hr ad.1 (hanc p hp ad had)]; exact h.rankAnc p hp ad had hz }

end Mosaik
