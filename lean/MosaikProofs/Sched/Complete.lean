/-
Scheduled steps are kept until they begin (used for the completeness half of C02).  Both theorems are read off the
description of the schedules in `Sched/Sources.lean`.
-/
import MosaikProofs.Sched.Sources
namespace Mosaik

/-- an action removes a step from a schedule only by beginning it -/
theorem step_next_keeps {cfg : Cfg} {s s' : State} {a : Action} (h : step cfg s a = some s') :
    ∀ b x, x ∈ (s.sims b).next → x ∈ (s'.sims b).next ∨ (a = .deps b ∧ (s.sims b).next.head? = some x) :=
  fun b => (step_sched h b).keeps

theorem step_next_or_begun {cfg : Cfg} {s s' : State} {a : Action} (h : step cfg s a = some s') (hnf : s'.failed = none) :
    ∀ b x, x ∈ (s.sims b).next → x ∈ (s'.sims b).next ∨ x ∈ (s'.sims b).begun := by
  intro b x hx
  rcases step_next_keeps h b x hx with h1 | ⟨rfl, hhead⟩
  · exact Or.inl h1
  · cases step_fires h with
    | deps _ _ c rest _ _ _ _ hnext =>
      rw [hnext] at hhead
      cases hhead
      rw [(beginStep_nf hnf).2.2, begunState_same]
      exact Or.inr List.mem_cons_self

/-- the action that raises a demand (own returned next step, delivered trigger) leaves the demanded step in the schedule -/
theorem demand_scheduled {cfg : Cfg} {s s' : State} {a : Action} {b : Sid} {x : TT} (h : step cfg s a = some s')
    (hnf : s'.failed = none) (hd : SelfSrc cfg s a b x ∨ TrigSrc cfg s a b x) : x ∈ (s'.sims b).next := by
  rcases hd with ⟨n, c, rfl, hcur, _, hun, rfl⟩ | ⟨q, c, tr, data, outT, _, hcur, htr, rfl, hhas, rfl, hsrc⟩
  · cases step_fires h with
    | stepReply _ _ c' _ _ _ hcur' =>
      cases hcur.symm.trans hcur'
      rw [(processStepReply_nf hnf).2]
      exact (mem_afterStep_next _ _ _ _ _ _).mpr (Or.inl ((mem_replied_next _ _ _ _ _ _ _).mpr (Or.inr ⟨rfl, n, rfl, hun, rfl⟩)))
  · rcases hsrc with ⟨d, rfl, rfl, rfl, _⟩ | ⟨r, rfl, hempty, rfl, rfl⟩
    · cases step_fires h with
      | dataReply _ _ c' _ _ _ hcur' =>
        cases hcur.symm.trans hcur'
        rw [(processDataReply_nf hnf).2]
        refine (mem_finish_next _ _ _ _ _ _).mpr (Or.inr ⟨tr, htr, rfl, ?_, ?_⟩)
        · rw [storeOutputs_data]
          exact hhas
        · rw [storeOutputs_sims, gotReply, State.emit_sims, State.upd_same]
    · cases step_fires h with
      | stepReply _ _ c' _ _ _ hcur' =>
        cases hcur.symm.trans hcur'
        have e := (processStepReply_nf hnf).2
        rw [e] at hnf ⊢
        refine (mem_afterStep_next _ _ _ _ _ _).mpr (Or.inr ⟨(ite_failed_nf hnf).1, hempty, tr, htr, rfl, ?_, ?_⟩)
        · rw [replied_sims]
          exact hhas
        · rw [replied_sims]

end Mosaik
