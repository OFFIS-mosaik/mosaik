/-
Which steps are *traceable to the simulator `p` itself* (C07, the `max_advance` promise without any restriction on the
continuation): a step scheduled by `p`'s own returned next step or by an output of a step of `p`, and — transitively —
a step scheduled by the returned next step or an output of a step that is itself traceable to `p`.
-/
import MosaikModel.Sched
namespace Mosaik

abbrev Taint := List (Sid × TT)

/-- the steps the action schedules, if its cause is traceable to `p` -/
def taintStep (cfg : Cfg) (p : Sid) (T : Taint) (s : State) (a : Action) : Taint :=
  match a with
  | .stepReply q r =>
    match (s.sims q).cur with
    | none => T
    | some c =>
      if q = p ∨ (q, c) ∈ T then
        (match r with
          | .int n => [(q, ofWorld (cfg.sim q).depth n.toNat)]
          | _ => []) ++
        (if (cfg.sim q).outReq.isEmpty then
          ((cfg.sim q).triggers.filter (fun tr => OutData.has (s.sims q).data tr.1)).map
            (fun tr => (tr.2.1, TI.act (s.sims q).outTime tr.2.2))
        else []) ++ T
      else T
  | .dataReply q d =>
    match (s.sims q).cur with
    | none => T
    | some c =>
      if q = p ∨ (q, c) ∈ T then
        ((cfg.sim q).triggers.filter (fun tr => OutData.has d.data tr.1)).map
          (fun tr => (tr.2.1, TI.act (outTimeOf c d).2 tr.2.2)) ++ T
      else T
  | _ => T

theorem taintStep_mono (cfg : Cfg) (p : Sid) (T : Taint) (s : State) (a : Action) : ∀ x ∈ T, x ∈ taintStep cfg p T s a := by
  intro x hx
  unfold taintStep
  cases a with
  | stepReply q r =>
    simp only
    split
    · exact hx
    · split
      · exact List.mem_append_right _ hx
      · exact hx
  | dataReply q d =>
    simp only
    split
    · exact hx
    · split
      · exact List.mem_append_right _ hx
      · exact hx
  | _ => exact hx

theorem taintStep_self {cfg : Cfg} {p : Sid} {T : Taint} {s : State} {q : Sid} {c : TT} (hcur : (s.sims q).cur = some c)
    (hq : q = p ∨ (q, c) ∈ T) (n : Int) :
    (q, ofWorld (cfg.sim q).depth n.toNat) ∈ taintStep cfg p T s (.stepReply q (.int n)) := by
  unfold taintStep
  simp only [hcur, hq, if_true]
  exact List.mem_append_left _ (List.mem_append_left _ (List.mem_singleton.mpr rfl))

theorem taintStep_trigger {cfg : Cfg} {p : Sid} {T : Taint} {s : State} {q : Sid} {c : TT} (hcur : (s.sims q).cur = some c)
    (hq : q = p ∨ (q, c) ∈ T) (d : DataReply) {tr : Port × Sid × TI} (htr : tr ∈ (cfg.sim q).triggers)
    (hhas : OutData.has d.data tr.1 = true) :
    (tr.2.1, TI.act (outTimeOf c d).2 tr.2.2) ∈ taintStep cfg p T s (.dataReply q d) := by
  unfold taintStep
  simp only [hcur, hq, if_true]
  exact List.mem_append_left _ (List.mem_map.mpr ⟨tr, List.mem_filter.mpr ⟨htr, hhas⟩, rfl⟩)

/-- the taint after a run -/
def taintRun (cfg : Cfg) (p : Sid) : Taint → State → List Action → Taint
  | T, _, [] => T
  | T, s, a :: as => match step cfg s a with
    | none => T
    | some s' => taintRun cfg p (taintStep cfg p T s a) s' as

end Mosaik
