/-
Invariants that `next_step_settled` establishes for the simulator it runs for.

`Settles cfg J`: the property `J s q` of one simulator reads only `q`'s program counter, progress, schedule and `newer_step`
flag (`SimSt.wait`), survives a rise of the progress and `schedule_step`, is established for `p` by
`next_step_settled` of `p`, and says nothing about a simulator whose step is running.  Such a property holds of every
simulator in every reachable state that has not failed (`Settles.reach`): every block that ends in
`next_step_settled` of `p` leaves the other simulators with what they had.  `AwaitOk` (`Sched/Await.lean`) and `DoneOk`
(`Sched/Done.lean`) are the two instances.
-/
import MosaikProofs.Sched.Trace
namespace Mosaik

/-- the fields such a property reads -/
abbrev SimSt.wait (x : SimSt) : PC × List TT × Bool × TT := (x.pc, x.next, x.newer, x.progress)

structure Settles (cfg : Cfg) (J : State → Sid → Prop) : Prop where
  mono : ∀ {s s' : State} {q : Sid}, J s q → (s'.sims q).pc = (s.sims q).pc → (s'.sims q).next = (s.sims q).next →
    (s'.sims q).newer = (s.sims q).newer → (s.sims q).progress ≤ (s'.sims q).progress → J s' q
  of_schedule : ∀ {s : State} {q : Sid} (b : Sid) (t : TT), J s q → J (schedule s b t) q
  own_settle : ∀ (s : State) (p : Sid), J (settle cfg s p) p
  busy : ∀ {s : State} {q : Sid}, (s.sims q).pc = .inStep ∨ (s.sims q).pc = .inGet → J s q
  init : ∀ q, J (initState cfg) q

variable {cfg : Cfg} {J : State → Sid → Prop} (hJ : Settles cfg J) {s : State} {q : Sid}
include hJ

theorem Settles.congr {s' : State} (h : J s q) (e : (s'.sims q).wait = (s.sims q).wait) : J s' q := by
  simp only [SimSt.wait, Prod.mk.injEq] at e
  obtain ⟨hpc, hnext, hnewer, hprog⟩ := e
  exact hJ.mono h hpc hnext hnewer (TT.le_of_eq hprog.symm)

theorem Settles.raise {s' : State} (h : J s q) (e : s'.sims q = { s.sims q with progress := (s'.sims q).progress })
    (hle : (s.sims q).progress ≤ (s'.sims q).progress) : J s' q :=
  hJ.mono h (by rw [e]) (by rw [e]) (by rw [e]) hle

theorem Settles.of_settle (p : Sid) (h : q ≠ p → J s q) : J (settle cfg s p) q := by
  by_cases hqp : q = p
  · subst hqp
    exact hJ.own_settle s q
  · exact hJ.congr (h hqp) (by rw [settle_other _ _ hqp])

theorem Settles.of_notify (p : Sid) (h : J s q) : J (notify cfg s p) q := by
  unfold notify
  apply foldl_inv (fun st => J st q)
  · exact h
  · intro st tr _ h
    split
    · exact hJ.of_schedule _ _ h
    · exact h

theorem Settles.of_finish (p : Sid) (c : TT) (hnf : (finish cfg s p c).failed = none) (h : q ≠ p → J s q) : J (finish cfg s p c) q := by
  have h3 : q ≠ p → J (advanceAll cfg (notify cfg (clearCur s p c) p)) q := fun hqp =>
    hJ.raise (hJ.of_notify p (hJ.congr (s' := clearCur s p c) (h hqp) (by rw [clearCur_sims])))
      (advanceAll_sims cfg _ q) (advanceAll_progress_le cfg _ q)
  rw [(finish_nf hnf).2]
  apply hJ.of_settle p
  intro hqp
  split
  · exact hJ.congr (h3 hqp) (by rw [prune_sims])
  · exact h3 hqp

theorem Settles.of_afterStep (p : Sid) (c : TT) (hnf : (afterStep cfg s p c).failed = none) (h : q ≠ p → J s q) :
    J (afterStep cfg s p c) q := by
  have hq3 : q ≠ p → J (rtCheck cfg s p c) q := fun hqp => hJ.congr (h hqp) (by rw [rtCheck_sims])
  rcases afterStep_cases cfg s p c with ⟨hf, e⟩ | ⟨_, _, e⟩ | ⟨_, e⟩ <;> rw [e] at hnf ⊢
  · exact absurd hnf hf
  · exact hJ.of_finish p c hnf hq3
  · by_cases hqp : q = p
    · subst hqp
      exact hJ.busy (Or.inr (by rw [State.upd_same]))
    · exact hJ.congr (hq3 hqp) (by rw [State.upd_other _ _ hqp])

theorem Settles.of_step {s' : State} {a : Action} (hs : ∀ q, J s q) (h : step cfg s a = some s') (hnf : s'.failed = none) :
    ∀ q, J s' q := by
  intro q
  cases step_fires h with
  | start p =>
    rw [(settled_nf hnf).2]
    exact hJ.of_settle p fun _ => hJ.raise (hs q) (advance_sims cfg s p q) (advance_progress_le cfg s p q)
  | wake p =>
    rw [(settled_nf hnf).2]
    exact hJ.of_settle p fun hqp => hJ.congr (hs q) (by rw [woken_other _ _ hqp])
  | deps p _ c rest =>
    by_cases hqp : q = p
    · subst hqp
      exact hJ.busy (Or.inl (by rw [(beginStep_nf hnf).2.2, begunState_same]))
    · exact hJ.congr (hs q) (by rw [beginStep_other cfg s p c rest hqp])
  | setDataRefused | getDataRefused | eventNotRt => exact absurd hnf (State.fail_ne_none _ _)
  | setData p target => exact hJ.congr (hs q) (State.upd_keeps SimSt.wait s target q fun _ => rfl)
  | getData => exact hs q
  | setEvent => exact hJ.of_schedule _ _ (hs q)
  | eventIgnored => exact hJ.congr (hs q) rfl
  | stepReply p r c =>
    have e := (processStepReply_nf hnf).2
    rw [e] at hnf ⊢
    apply hJ.of_afterStep p c hnf
    intro _
    have h1 : J (stepped s p c) q := hJ.congr (hs q) (by rw [stepped_sims])
    rcases replied_cases cfg s p c r with e | ⟨n, _, _, e⟩ <;> rw [e]
    · exact h1
    · exact hJ.of_schedule _ _ h1
  | dataReply p d c =>
    have e := (processDataReply_nf hnf).2
    rw [e] at hnf ⊢
    exact hJ.of_finish p c hnf fun _ => hJ.congr (hs q) (by rw [storeOutputs_sims, gotReply_sims])
  | tick => exact hJ.congr (hs q) rfl

theorem Settles.reach (hr : Reach cfg s) : s.failed = none → ∀ q, J s q :=
  reach_induction_nf (I := fun s => ∀ q, J s q) hJ.init (fun _ _ hs h hnf => hJ.of_step hs h hnf) hr

end Mosaik
