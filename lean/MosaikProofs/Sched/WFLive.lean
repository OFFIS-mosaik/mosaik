/-
The executable checks `Cfg.shapeB`, `Cfg.flatB`, `Cfg.pushB`, `Cfg.pullB` and `Cfg.pushKeysB` (evaluated by the driver's
`wfx` command on the scenarios of the correspondence runs) imply the hypotheses `WFShape`, `Flat`, `PushOk`, `PullOk`
of the liveness and data-flow theorems and the connection hypotheses of the push-path refinement.
-/
import MosaikProofs.Sched.WF
import MosaikProofs.Sched.PushRef
import MosaikProofs.Sched.Deadlock
namespace Mosaik

theorem shapeB_sound {cfg : Cfg} (h : cfg.shapeB = true) : WFShape cfg := by
  simp only [Cfg.shapeB, List.all_eq_true, List.mem_range] at h
  have unpack := fun p hp => by
    have := h p hp
    simp only [Cfg.shapeSim, Bool.and_eq_true, List.all_eq_true, beq_iff_eq] at this
    exact this
  constructor
  case trigLen => exact fun x hx => (unpack x hx).1.1
  case ancLen => exact fun q hq => (unpack q hq).1.2
  case next0Len =>
    intro p t ht
    by_cases hp : p < cfg.n
    · exact (unpack p hp).2 t ht
    · rw [Cfg.sim_of_ge (Nat.le_of_not_lt hp)] at ht
      cases ht

theorem flatB_sound {cfg : Cfg} {rk : List Nat} (h : cfg.flatB rk = true) : Flat cfg (fun p => rk.getD p 0) := by
  simp only [Cfg.flatB, List.all_eq_true, List.mem_range] at h
  have unpack := fun p hp => by
    have := h p hp
    simp only [Cfg.flatSim, Bool.and_eq_true, List.all_eq_true, beq_iff_eq, decide_eq_true_eq, Bool.or_eq_true,
      bne_iff_ne, ne_eq] at this
    exact this
  -- the conjuncts of `flatSim rk p` for the four tables of `p`
  have hin := fun p hp => (unpack p hp).1.1.1.2
  have hanc := fun p hp => (unpack p hp).1.1.2
  have hsucc := fun p hp => (unpack p hp).1.2
  have hwait := fun p hp => (unpack p hp).2
  exact
    { depth := fun p => by
        by_cases hp : p < cfg.n
        · exact (unpack p hp).1.1.1.1
        · rw [Cfg.sim_of_ge (Nat.le_of_not_lt hp)]
      inputRange := fun p hp qd hqd => (hin p hp qd hqd).1.1.1
      succRange := fun p hp sd hsd => (hsucc p hp sd hsd).1.1
      succWaitRange := fun p hp sd hsd => (hwait p hp sd hsd).1.1
      inputShape := fun p hp qd hqd => ⟨(hin p hp qd hqd).1.1.2, (hin p hp qd hqd).1.2⟩
      ancShape := fun p hp ad had => ⟨(hanc p hp ad had).1.1, (hanc p hp ad had).1.2⟩
      succZero := fun p hp sd hsd => ⟨(hsucc p hp sd hsd).1.2, (hsucc p hp sd hsd).2⟩
      succWaitZero := fun p hp sd hsd => ⟨(hwait p hp sd hsd).1.2, (hwait p hp sd hsd).2⟩
      rankInput := fun p hp qd hqd hz => (hin p hp qd hqd).2.resolve_left (not_not_intro hz)
      rankAnc := fun p hp ad had hz => (hanc p hp ad had).2.resolve_left (not_not_intro hz) }

theorem pushB_sound {cfg : Cfg} (h : cfg.pushB = true) : PushOk cfg := by
  simp only [Cfg.pushB, List.all_eq_true, List.mem_range] at h
  have unpack := fun p hp => by
    have := h p hp
    simp only [Cfg.pushSim, Bool.and_eq_true, List.all_eq_true, beq_iff_eq, decide_eq_true_eq] at this
    exact this
  exact {
    range := fun p hp e he => (unpack p hp e he).1.1.1
    shape := fun p hp e he => ⟨(unpack p hp e he).1.1.2, (unpack p hp e he).1.2⟩
    covered := fun p hp e he => exists_le_of_any (unpack p hp e he).2 }

theorem pullB_sound {cfg : Cfg} (h : cfg.pullB = true) : PullOk cfg := by
  simp only [Cfg.pullB, List.all_eq_true, List.mem_range] at h
  have unpack := fun p hp => by
    have := h p hp
    simp only [Cfg.pullSim, Bool.and_eq_true, List.all_eq_true, beq_iff_eq, decide_eq_true_eq] at this
    exact this
  exact {
    range := fun p hp e he => (unpack p hp e he).1.1.1
    shape := fun p hp e he => ⟨(unpack p hp e he).1.1.2, (unpack p hp e he).1.2⟩
    covered := fun p hp e he => exists_le_of_any (unpack p hp e he).2 }

/-- what a run of the driver's check establishes: the deadlock-freedom theorem applies -/
theorem deadlock_free_of_checks {cfg : Cfg} (h1 : cfg.wfB = true) (h2 : cfg.shapeB = true) (h3 : cfg.flatB cfg.zeroRank = true)
    {s : State} (hr : Reach cfg s) (hnf : s.failed = none) (hsome : ∃ p, p < cfg.n ∧ (s.sims p).pc ≠ .done) :
    (∃ p, (step cfg s (.start p)).isSome = true) ∨ Moves cfg s ∨
    (∃ p, p < cfg.n ∧ ((s.sims p).pc = .inStep ∨ (s.sims p).pc = .inGet)) :=
  deadlock_free_flat (wfB_sound h1) (shapeB_sound h2) (flatB_sound h3) hr hnf hsome

/-- … and the no-late-arrival invariant holds -/
theorem bufOk_of_checks {cfg : Cfg} (h1 : cfg.wfB = true) (h2 : cfg.shapeB = true) (h3 : cfg.flatB cfg.zeroRank = true)
    (h4 : cfg.pushB = true) {s : State} (hr : Reach cfg s) (hnf : s.failed = none) : ∀ q, q < cfg.n → BufOk s q :=
  reach_bufOk (wfB_sound h1) (shapeB_sound h2) (flatB_sound h3) (pushB_sound h4) hr hnf

/-- the executable check gives the two connection hypotheses of the push-path refinement, for every pushed connection -/
theorem pushKeysB_sound {cfg : Cfg} (h : cfg.pushKeysB = true) {p : Sid} (hp : p < cfg.n) :
    (cfg.sim p).pulled = [] ∧
    ∀ pe ∈ (cfg.sim p).push, (cfg.sim p).push.filter (hits pe.2.1 (keyOf p pe) p) = [pe] := by
  simp only [Cfg.pushKeysB, List.all_eq_true, List.mem_range] at h
  have := h p hp
  simp only [Cfg.pushKeysSim, Bool.and_eq_true, List.all_eq_true, List.isEmpty_iff] at this
  refine ⟨this.1, fun pe hpe => ?_⟩
  rw [← eq_of_beq (this.2 pe hpe)]
  apply List.filter_congr
  intro e _
  rw [Bool.eq_iff_iff, hits_iff]
  simp only [keyOf, InKey.mk.injEq, Bool.and_eq_true, beq_iff_eq, eq_self, true_and, and_assoc]

end Mosaik
