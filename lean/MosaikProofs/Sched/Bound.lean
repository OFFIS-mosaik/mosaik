/-
A bound on the number of steps (C05, "after finitely many steps").

Every step a simulator begins is a tiered time of the simulator's depth `d` whose time is `< until`
and whose sub-step counters are `< max_loop_iterations` (loop guard); the steps are strictly
increasing.  Hence a simulator begins at most `until * max_loop_iterations ^ (d - 1)` steps.
-/
import MosaikProofs.Sched.Shape
namespace Mosaik

/-- a tiered time read as a number: sub-step counters are digits in base `M` -/
def enc (M : Nat) : List Nat → Nat
  | [] => 0
  | x :: xs => x * M ^ xs.length + enc M xs

theorem digit_lt {x U e P : Nat} (hx : x < U) (he : e < P) : x * P + e < U * P :=
  calc x * P + e < (x + 1) * P := by rw [Nat.add_mul, Nat.one_mul]; omega
    _ ≤ U * P := Nat.mul_le_mul_right _ hx

theorem enc_lt_pow (M : Nat) : ∀ (xs : List Nat), (∀ y ∈ xs, y < M) → enc M xs < M ^ xs.length := by
  intro xs
  induction xs with
  | nil => exact fun _ => Nat.one_pos
  | cons x xs ih =>
    intro h
    rw [List.length_cons, Nat.pow_succ']
    exact digit_lt (h x List.mem_cons_self) (ih fun y hy => h y (List.mem_cons_of_mem _ hy))

/-- the order of tiered times of one length whose sub-step counters are digits is the order of the numbers: only the
digits of the smaller one matter -/
theorem enc_lt_of_lt (M : Nat) (a b : List Nat) (hl : a.length = b.length) (ha : ∀ y ∈ a.tail, y < M) (h : a < b) :
    enc M a < enc M b := by
  induction a generalizing b with
  | nil =>
    cases b with
    | nil => exact absurd h (List.lt_irrefl _)
    | cons y ys => cases hl
  | cons x xs ih =>
    cases b with
    | nil => cases hl
    | cons y ys =>
      have hl' : xs.length = ys.length := Nat.succ.inj hl
      unfold enc
      rw [← hl']
      rcases List.cons_lt_cons_iff.mp h with hxy | ⟨rfl, ht⟩
      · exact Nat.lt_of_lt_of_le (digit_lt hxy (enc_lt_pow M xs ha)) (Nat.le_add_right _ _)
      · exact Nat.add_lt_add_left (ih ys hl' (fun z hz => ha z (List.mem_of_mem_tail hz)) ht) _

theorem length_le_of_decreasing (l : List Nat) (B : Nat) (hp : l.Pairwise (fun a b => b < a)) (hb : ∀ x ∈ l, x < B) :
    l.length ≤ B := by
  induction l generalizing B with
  | nil => exact Nat.zero_le _
  | cons x xs ih =>
    rw [List.pairwise_cons] at hp
    exact Nat.lt_of_le_of_lt (ih x hp.2 hp.1) (hb x List.mem_cons_self)

/-- **a simulator begins at most `until * max_loop_iterations ^ (depth - 1)` steps** -/
theorem steps_bounded {cfg : Cfg} (hw : WFCfg cfg) (hs : WFShape cfg) {s : State} (hr : Reach cfg s) (hnf : s.failed = none)
    (p : Sid) (hp : p < cfg.n) :
    (s.sims p).begun.length ≤ cfg.until_ * cfg.maxLoop ^ ((cfg.sim p).depth - 1) := by
  have hdep := hw.depth p hp
  have hshape := reach_begun_shape hw hs hr hnf p
  have hdig : ∀ b ∈ (s.sims p).begun, ∀ y ∈ b.tail, y < cfg.maxLoop := by
    intro b hb y hy
    have := begun_ind (Q := fun _ c => (c.tail.any fun k => decide (k ≥ cfg.maxLoop)) = false) hw (fun _ _ h => h.noLoop) hr hnf p b hb
    rw [List.any_eq_false] at this
    simpa using this y hy
  -- the numbers of the steps begun decrease and lie below the bound
  rw [← List.length_map (f := enc cfg.maxLoop)]
  apply length_le_of_decreasing
  · rw [List.pairwise_map]
    refine (List.Pairwise.and_mem.mp ((reach_good hw hr hnf).1 p hp).begun_sorted).imp ?_
    rintro a b ⟨ha, hb, hlt⟩
    exact enc_lt_of_lt _ b a (by rw [hshape b hb, hshape a ha]) (hdig b hb) hlt
  · intro x hx
    obtain ⟨b, hb, rfl⟩ := List.mem_map.mp hx
    have hl := hshape b hb
    match b, hl with
    | [], hl => simp at hl; omega
    | x :: xs, hl =>
      have hxl : xs.length = (cfg.sim p).depth - 1 := by simp at hl; omega
      rw [← hxl]
      refine digit_lt ?_ (enc_lt_pow _ xs fun y hy => hdig (x :: xs) hb y hy)
      simpa [TT.time, tier] using begun_ind (Q := fun _ c => TT.time c < cfg.until_) hw (fun _ _ h => h.time) hr hnf p (x :: xs) hb

end Mosaik
