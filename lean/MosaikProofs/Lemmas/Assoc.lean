/-
Lists as mosaik's containers are modelled: the per-simulator tables as a list indexed by simulator id with a default
(`sims.getD p {}`), and its dicts as association lists: a lookup finds the first entry with the key, a store replaces the
value under the key or appends a new entry (`dict.update` is a fold of stores).  `Descs.get?`/`Descs.set` (keys `Sid × Sid`), `lookupTI`/`insertTI`
(keys `Sid`), `InputData.get?`/`InputData.set` (keys `InKey`), `OutData.get?`/`OutData.set` (keys `Port`) and `cachePut`
(keys `Int`) are `assocGet`/`assocPut` by `rfl`.
-/
namespace Mosaik

theorem getD_of_ge {α : Type} {l : List α} {i : Nat} (d : α) (h : l.length ≤ i) : l.getD i d = d := by
  rw [List.getD_eq_getElem?_getD, List.getElem?_eq_none h]
  rfl

theorem getD_replicate {α : Type} (n i : Nat) (d : α) : (List.replicate n d).getD i d = d := by
  rw [List.getD_eq_getElem?_getD, List.getElem?_replicate]
  split <;> rfl

theorem getD_set {α : Type} (l : List α) (i j : Nat) (a d : α) :
    (l.set i a).getD j d = if j = i ∧ i < l.length then a else l.getD j d := by
  simp only [List.getD_eq_getElem?_getD, List.getElem?_set]
  by_cases hq : i = j
  · subst hq
    by_cases hp : i < l.length
    · simp [hp]
    · simp [hp]
  · have : ¬ j = i := fun h => hq h.symm
    simp [hq, this]

theorem getD_append_lt {α : Type} {l : List α} {i : Nat} (h : i < l.length) (l' : List α) (d : α) :
    (l ++ l').getD i d = l.getD i d := by
  rw [List.getD_eq_getElem?_getD, List.getD_eq_getElem?_getD, List.getElem?_append_left h]

theorem getD_append_length {α : Type} (l : List α) (a d : α) : (l ++ [a]).getD l.length d = a := by
  rw [List.getD_eq_getElem?_getD, List.getElem?_append_right (Nat.le_refl _), Nat.sub_self]
  rfl

theorem lt_of_mem_getD {α β : Type} (T : α → List β) {l : List α} {d : α} {i : Nat} {e : β} (he : e ∈ T (l.getD i d))
    (h0 : T d = []) : i < l.length := by
  refine Nat.lt_of_not_le fun hi => ?_
  rw [getD_of_ge _ hi, h0] at he
  cases he

/-- the form of the executable checks: a test of every entry of every simulator's table -/
theorem all_range_all {α : Type} {n : Nat} {f : Nat → List α} {p : Nat → α → Bool}
    (h : ((List.range n).all fun t => (f t).all (p t)) = true) {t : Nat} (ht : t < n) {x : α} (hx : x ∈ f t) : p t x = true :=
  have hrow : (f t).all (p t) = true := List.all_eq_true.mp h t (List.mem_range.mpr ht)
  List.all_eq_true.mp hrow x hx

section
variable {κ β : Type} [BEq κ] [LawfulBEq κ]

def assocGet (l : List (κ × β)) (k : κ) : Option β := (l.find? (·.1 == k)).map (·.2)

def assocPut (l : List (κ × β)) (k : κ) (v : β) : List (κ × β) :=
  if l.any (·.1 == k) then l.map (fun e => if e.1 == k then (k, v) else e) else l ++ [(k, v)]

theorem find?_map_replace_ne (l : List (κ × β)) {k k' : κ} (v : β) (h : (k == k') = false) :
    (l.map (fun e => if e.1 == k then (k, v) else e)).find? (·.1 == k') = l.find? (·.1 == k') := by
  induction l with
  | nil => rfl
  | cons e l ih =>
    rw [List.map_cons, List.find?_cons, List.find?_cons, ih]
    by_cases he : e.1 == k
    · have : (e.1 == k') = false := by rw [eq_of_beq he]; exact h
      rw [if_pos he, h, this]
    · rw [if_neg he]

theorem find?_map_replace_self {l : List (κ × β)} {k : κ} (v : β) (h : l.any (·.1 == k) = true) :
    (l.map (fun e => if e.1 == k then (k, v) else e)).find? (·.1 == k) = some (k, v) := by
  induction l with
  | nil => cases h
  | cons e l ih =>
    rw [List.map_cons, List.find?_cons]
    by_cases he : e.1 == k
    · rw [if_pos he, beq_self_eq_true]
    · rw [if_neg he, Bool.eq_false_iff.mpr he]
      rw [List.any_cons, Bool.or_eq_true] at h
      exact ih (h.resolve_left he)

theorem find?_assocPut (l : List (κ × β)) (k k' : κ) (v : β) :
    (assocPut l k v).find? (·.1 == k') = if k == k' then some (k, v) else l.find? (·.1 == k') := by
  unfold assocPut
  by_cases hany : l.any (·.1 == k) = true
  · rw [if_pos hany]
    by_cases h : k == k'
    · rw [if_pos h, ← eq_of_beq h]
      exact find?_map_replace_self v hany
    · rw [if_neg h]
      exact find?_map_replace_ne l v (Bool.eq_false_iff.mpr h)
  · rw [if_neg hany, List.find?_append, List.find?_singleton]
    by_cases h : k == k'
    · have : l.find? (·.1 == k') = none :=
        List.find?_eq_none.mpr fun x hx hk => hany (List.any_eq_true.mpr ⟨x, hx, eq_of_beq h ▸ hk⟩)
      rw [if_pos h, if_pos h, this]
      rfl
    · rw [if_neg h, if_neg h, Option.or_none]

theorem mem_assocPut {l : List (κ × β)} {k : κ} {v : β} {e : κ × β} :
    e ∈ assocPut l k v ↔ e = (k, v) ∨ (e ∈ l ∧ e.1 ≠ k) := by
  unfold assocPut
  split
  · rename_i hany
    rw [List.mem_map]
    constructor
    · rintro ⟨a, ha, rfl⟩
      by_cases hk : a.1 == k
      · rw [if_pos hk]
        exact Or.inl rfl
      · rw [if_neg hk]
        exact Or.inr ⟨ha, fun h => hk (beq_iff_eq.mpr h)⟩
    · rintro (rfl | ⟨he, hne⟩)
      · obtain ⟨a, ha, hk⟩ := List.any_eq_true.mp hany
        exact ⟨a, ha, if_pos hk⟩
      · exact ⟨e, he, if_neg fun h => hne (eq_of_beq h)⟩
  · rename_i hany
    rw [List.mem_append, List.mem_singleton]
    constructor
    · rintro (he | he)
      · exact Or.inr ⟨he, fun h => hany (List.any_eq_true.mpr ⟨e, he, beq_iff_eq.mpr h⟩)⟩
      · exact Or.inl he
    · rintro (he | ⟨he, _⟩)
      · exact Or.inr he
      · exact Or.inl he

theorem assocGet_put_same (l : List (κ × β)) (k : κ) (v : β) : assocGet (assocPut l k v) k = some v := by
  rw [assocGet, find?_assocPut, beq_self_eq_true]
  rfl

theorem assocGet_put_ne (l : List (κ × β)) {k k' : κ} (v : β) (h : k' ≠ k) : assocGet (assocPut l k v) k' = assocGet l k' := by
  rw [assocGet, find?_assocPut, if_neg (fun hb => h (eq_of_beq hb).symm)]
  rfl

theorem assocGet_mem {l : List (κ × β)} {k : κ} {v : β} (h : assocGet l k = some v) : (k, v) ∈ l := by
  obtain ⟨e, he, rfl⟩ := Option.map_eq_some_iff.mp h
  have hk := List.find?_some he
  cases eq_of_beq hk
  exact List.mem_of_find?_eq_some he

theorem assocGet_of_mem_nodup {l : List (κ × β)} (hn : (l.map (·.1)).Nodup) {e : κ × β} (he : e ∈ l) :
    assocGet l e.1 = some e.2 := by
  induction l with
  | nil => cases he
  | cons a l ih =>
    rw [List.map_cons, List.nodup_cons] at hn
    rw [assocGet, List.find?_cons]
    rcases List.mem_cons.mp he with rfl | hel
    · rw [beq_self_eq_true]
      rfl
    · have hne : a.1 ≠ e.1 := fun heq => hn.1 (heq ▸ List.mem_map.mpr ⟨e, hel, rfl⟩)
      rw [beq_eq_false_iff_ne.mpr hne]
      exact ih hn.2 hel

theorem assocGet_foldl_put_other {α : Type} (key : α → κ) (val : α → β) (es : List α) (l : List (κ × β)) (k : κ)
    (h : ∀ e ∈ es, key e ≠ k) : assocGet (es.foldl (fun acc e => assocPut acc (key e) (val e)) l) k = assocGet l k := by
  induction es generalizing l with
  | nil => rfl
  | cons e es ih =>
    rw [List.foldl_cons, ih _ fun f hf => h f (List.mem_cons_of_mem _ hf), assocGet_put_ne _ _ (h e List.mem_cons_self).symm]

theorem assocGet_foldl_put_last {α : Type} (key : α → κ) (val : α → β) (pre : List α) (e : α) (rest : List α) (l : List (κ × β))
    (hrest : ∀ f ∈ rest, key f ≠ key e) :
    assocGet ((pre ++ e :: rest).foldl (fun acc e => assocPut acc (key e) (val e)) l) (key e) = some (val e) := by
  rw [List.foldl_append, List.foldl_cons, assocGet_foldl_put_other key val rest _ _ hrest, assocGet_put_same]

end

section
variable {κ β : Type} [BEq κ]

theorem any_eq_isSome_assocGet (l : List (κ × β)) (k : κ) : l.any (·.1 == k) = (assocGet l k).isSome := by
  rw [assocGet, Option.isSome_map, List.isSome_find?]

theorem assocGet_append (l l' : List (κ × β)) (k : κ) : assocGet (l ++ l') k = (assocGet l k).or (assocGet l' k) := by
  rw [assocGet, List.find?_append, Option.map_or]
  rfl

variable [LawfulBEq κ] [DecidableEq κ]

theorem assocGet_cons (e : κ × β) (l : List (κ × β)) (k : κ) :
    assocGet (e :: l) k = if e.1 = k then some e.2 else assocGet l k := by
  rw [assocGet, List.find?_cons]
  by_cases h : e.1 = k
  · rw [if_pos h, beq_iff_eq.mpr h]
    rfl
  · rw [if_neg h, beq_eq_false_iff_ne.mpr h]
    rfl

end

end Mosaik
