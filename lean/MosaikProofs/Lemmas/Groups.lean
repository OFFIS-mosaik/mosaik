/-
Groups as paths from the main group: the common group of two simulators is the longest common prefix of their paths
(`Group.common`), and `connect_interval` in closed form.
-/
import MosaikModel.Groups
namespace Mosaik

theorem Group.common_prefix (a b : Group) : Group.common a b <+: a ∧ Group.common a b <+: b := by
  induction a generalizing b with
  | nil => exact ⟨List.nil_prefix, List.nil_prefix⟩
  | cons x xs ih =>
    cases b with
    | nil => exact ⟨List.nil_prefix, List.nil_prefix⟩
    | cons y ys =>
      unfold Group.common
      split
      · rename_i h
        exact ⟨List.cons_prefix_cons.mpr ⟨rfl, (ih ys).1⟩, List.cons_prefix_cons.mpr ⟨h, (ih ys).2⟩⟩
      · exact ⟨List.nil_prefix, List.nil_prefix⟩

/-- the source's depth less the ascent to the common group (the cutoff `connect_interval` computes) is the common group's depth -/
theorem Group.depth_sub_ascent (s d : Group) :
    Group.depth s - (s.length - (Group.common s d).length) = (Group.common s d).length + 1 := by
  rw [Group.depth, Nat.succ_sub (Nat.sub_le _ _), Nat.sub_sub_self (Group.common_prefix s d).1.length_le]

/-- `connect_interval` in closed form: pre-length and cutoff are the depths of the source's and of the common group;
the tiers are zero but for the shift on tier 0 and the weak step on the last shared tier -/
theorem connectInterval_eq (s d : Group) (ts w : Nat) :
    connectInterval s d ts w =
      if w ≠ 0 ∧ Group.common s d = [] then none
      else
        let t1 := if ts ≠ 0 then (List.replicate (d.length + 1) 0).set 0 ts else List.replicate (d.length + 1) 0
        some ⟨s.length + 1, (Group.common s d).length + 1, if w ≠ 0 then t1.set (Group.common s d).length w else t1⟩ := by
  have hc := Group.depth_sub_ascent s d
  rw [Group.depth] at hc
  simp only [connectInterval, Group.path, Group.depth, listSet, hc, Nat.add_sub_cancel]

theorem connectInterval_eq_none (s d : Group) (ts w : Nat) :
    connectInterval s d ts w = none ↔ w ≠ 0 ∧ Group.common s d = [] := by
  rw [connectInterval_eq]
  by_cases hc : w ≠ 0 ∧ Group.common s d = []
  · rw [if_pos hc]
    exact iff_of_true rfl hc
  · rw [if_neg hc]
    exact iff_of_false (Option.some_ne_none _) hc

/-- a connection that is not weak is accepted between any two groups -/
theorem connectInterval_nonweak (s d : Group) (ts : Nat) : ∃ iv, connectInterval s d ts 0 = some iv :=
  Option.ne_none_iff_exists'.mp fun h => ((connectInterval_eq_none s d ts 0).mp h).1 rfl

theorem connectInterval_lengths {s d : Group} {ts w : Nat} {iv : TI} (h : connectInterval s d ts w = some iv) :
    iv.pre = s.length + 1 ∧ iv.tiers.length = d.length + 1 ∧ iv.cutoff = (Group.common s d).length + 1 := by
  rw [connectInterval_eq, Option.ite_none_left_eq_some] at h
  cases h.2
  refine ⟨rfl, ?_, rfl⟩
  simp only [apply_ite List.length, List.length_set, ite_self, List.length_replicate]

end Mosaik
