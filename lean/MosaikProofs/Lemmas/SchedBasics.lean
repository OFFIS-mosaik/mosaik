/-
Basic lemmas about the scheduler model: functional state update, sorted insertion, `minTT`, `front`.
-/
import MosaikModel.Sched
import MosaikProofs.Lemmas.Tiered
namespace Mosaik

@[simp] theorem State.upd_same (s : State) (p : Sid) (f : SimSt → SimSt) : (s.upd p f).sims p = f (s.sims p) := by
  simp [State.upd]

theorem State.upd_other (s : State) {p q : Sid} (f : SimSt → SimSt) (h : q ≠ p) : (s.upd p f).sims q = s.sims q := by
  simp [State.upd, h]

theorem State.upd_sims (s : State) (p q : Sid) (f : SimSt → SimSt) :
    (s.upd p f).sims q = if q = p then f (s.sims q) else s.sims q := rfl

/-- a view of a simulator that the update does not change is the same for everybody afterwards -/
theorem State.upd_keeps {α : Sort u} (π : SimSt → α) (s : State) (p q : Sid) {f : SimSt → SimSt} (hf : ∀ x, π (f x) = π x) :
    π ((s.upd p f).sims q) = π (s.sims q) := by
  rw [State.upd_sims]
  split
  · exact hf _
  · rfl

@[simp] theorem State.upd_failed (s : State) (p : Sid) (f : SimSt → SimSt) : (s.upd p f).failed = s.failed := rfl
@[simp] theorem State.upd_clock (s : State) (p : Sid) (f : SimSt → SimSt) : (s.upd p f).clock = s.clock := rfl
@[simp] theorem State.emit_sims (s : State) (e : Event) : (s.emit e).sims = s.sims := rfl
@[simp] theorem State.emit_failed (s : State) (e : Event) : (s.emit e).failed = s.failed := rfl
@[simp] theorem State.emit_clock (s : State) (e : Event) : (s.emit e).clock = s.clock := rfl
@[simp] theorem State.fail_sims (s : State) (e : SchedErr) : (s.fail e).sims = s.sims := by
  unfold State.fail; split <;> rfl

theorem State.fail_ne_none (s : State) (e : SchedErr) : (s.fail e).failed ≠ none := by
  unfold State.fail
  split
  · exact Option.some_ne_none e
  · rename_i h; rw [h]; exact Option.some_ne_none _

theorem State.fail_eq (s : State) (e : SchedErr) (h : s.failed = none) : (s.fail e).failed = some e := by
  simp [State.fail, h]

theorem State.fail_log (s : State) (e : SchedErr) : (s.fail e).log = s.log := by
  unfold State.fail
  split <;> rfl

/-- strictly increasing -/
def SortedTT (l : List TT) : Prop := l.Pairwise (· < ·)

theorem mem_insertSorted (t : TT) : ∀ (l : List TT) (x : TT), x ∈ insertSorted t l ↔ x = t ∨ x ∈ l := by
  intro l x
  induction l with
  | nil => simp [insertSorted]
  | cons y ys ih =>
    unfold insertSorted
    split
    · simp
    · rw [List.mem_cons, ih, List.mem_cons]
      exact or_left_comm

theorem sorted_insertSorted (t : TT) : ∀ (l : List TT), SortedTT l → t ∉ l → SortedTT (insertSorted t l) := by
  intro l
  induction l with
  | nil => intro _ _; simp [insertSorted, SortedTT]
  | cons y ys ih =>
    intro hs hn
    unfold insertSorted
    unfold SortedTT at hs ⊢
    rw [List.pairwise_cons] at hs
    split
    · rename_i hlt
      rw [List.pairwise_cons]
      refine ⟨?_, List.pairwise_cons.mpr hs⟩
      intro a ha
      rcases List.mem_cons.mp ha with rfl | ha
      · exact hlt
      · exact TT.lt_trans hlt (hs.1 a ha)
    · rename_i hnlt
      have hne : t ≠ y := fun e => hn (e ▸ List.mem_cons_self)
      have hyt : y < t := by
        rcases TT.le_iff_lt_or_eq.mp (TT.not_lt.mp hnlt) with h | h
        · exact h
        · exact absurd h.symm hne
      rw [List.pairwise_cons]
      refine ⟨?_, ih hs.2 (fun h => hn (List.mem_cons_of_mem _ h))⟩
      intro a ha
      rcases (mem_insertSorted t ys a).mp ha with rfl | ha
      · exact hyt
      · exact hs.1 a ha

theorem exists_head_le_of_mem {l : List TT} {x : TT} (hs : SortedTT l) (hx : x ∈ l) : ∃ h, l.head? = some h ∧ h ≤ x := by
  cases l with
  | nil => cases hx
  | cons y ys =>
    refine ⟨y, rfl, ?_⟩
    rcases List.mem_cons.mp hx with rfl | hx
    · exact TT.le_refl _
    · exact TT.le_of_lt ((List.pairwise_cons.mp hs).1 x hx)

theorem head_insertSorted (t : TT) (l : List TT) :
    (insertSorted t l).head? = some (match l.head? with | none => t | some h => if t < h then t else h) := by
  cases l with
  | nil => simp [insertSorted]
  | cons y ys =>
    unfold insertSorted
    by_cases h : t < y <;> simp [h]

theorem minTT_le_init : ∀ (l : List TT) (m : TT), minTT m l ≤ m := by
  intro l
  induction l with
  | nil => exact TT.le_refl
  | cons x xs ih =>
    intro m
    unfold minTT
    split
    · rename_i h
      exact TT.le_trans (ih x) (TT.le_of_lt h)
    · exact ih m

theorem minTT_le_mem : ∀ (l : List TT) (m x : TT), x ∈ l → minTT m l ≤ x := by
  intro l
  induction l with
  | nil => exact fun _ _ h => nomatch h
  | cons y ys ih =>
    intro m x h
    unfold minTT
    rcases List.mem_cons.mp h with rfl | h
    · split
      · exact minTT_le_init ys x
      · rename_i hn
        exact TT.le_trans (minTT_le_init ys m) (TT.not_lt.mp hn)
    · exact ih _ x h

theorem le_minTT : ∀ (l : List TT) (m b : TT), b ≤ m → (∀ x ∈ l, b ≤ x) → b ≤ minTT m l := by
  intro l
  induction l with
  | nil => exact fun _ _ h _ => h
  | cons y ys ih =>
    intro m b h hl
    unfold minTT
    split
    · exact ih y b (hl y List.mem_cons_self) (fun x hx => hl x (List.mem_cons_of_mem _ hx))
    · exact ih m b h (fun x hx => hl x (List.mem_cons_of_mem _ hx))

theorem minTT_mem : ∀ (l : List TT) (m : TT), minTT m l = m ∨ minTT m l ∈ l := by
  intro l
  induction l with
  | nil => exact fun _ => Or.inl rfl
  | cons y ys ih =>
    intro m
    unfold minTT
    split
    · rcases ih y with h | h
      · exact Or.inr (by rw [h]; exact List.mem_cons_self)
      · exact Or.inr (List.mem_cons_of_mem _ h)
    · rcases ih m with h | h
      · exact Or.inl h
      · exact Or.inr (List.mem_cons_of_mem _ h)

theorem front_cur {x : SimSt} {c : TT} (h : x.cur = some c) : front x = some c := by simp [front, h]
theorem front_none {x : SimSt} (h : x.cur = none) : front x = x.next.head? := by simp [front, h]

end Mosaik
