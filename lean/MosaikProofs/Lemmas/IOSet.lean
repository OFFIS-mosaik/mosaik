/-
Helper lemmas for the finite / co-finite set model: membership semantics of the list helpers, and a name that
occurs in neither of two lists (why a finite set never equals a co-finite one).
-/
import MosaikModel.IOSet
namespace Mosaik.IOSet

theorem contains_lunion (a b : List Nat) (x : Nat) : (lunion a b).contains x = (a.contains x || b.contains x) := by
  simp only [lunion, List.contains_eq_mem, List.mem_append, Bool.decide_or]

theorem contains_linter (a b : List Nat) (x : Nat) : (linter a b).contains x = (a.contains x && b.contains x) := by
  simp only [linter, List.contains_eq_mem, List.mem_filter, Bool.decide_and, Bool.decide_eq_true]

theorem contains_ldiff (a b : List Nat) (x : Nat) : (ldiff a b).contains x = (a.contains x && !b.contains x) := by
  simp only [ldiff, List.contains_eq_mem, List.mem_filter, Bool.decide_and, Bool.decide_eq_true]

theorem lsubset_iff (a b : List Nat) : lsubset a b = true ↔ ∀ x, x ∈ a → x ∈ b := by
  simp only [lsubset, List.all_eq_true, List.contains_eq_mem, decide_eq_true_eq]

theorem lseteq_iff (a b : List Nat) : lseteq a b = true ↔ ∀ x, a.contains x = b.contains x := by
  simp only [lseteq, Bool.and_eq_true, lsubset_iff, List.contains_eq_mem, decide_eq_decide]
  exact ⟨fun h x => ⟨h.1 x, h.2 x⟩, fun h => ⟨fun x => (h x).1, fun x => (h x).2⟩⟩

theorem exists_fresh (a b : List Nat) : ∃ x, a.contains x = false ∧ b.contains x = false := by
  have bound : ∀ l : List Nat, ∃ n, ∀ y ∈ l, y < n := by
    intro l
    induction l with
    | nil => exact ⟨0, fun _ h => nomatch h⟩
    | cons z l ih =>
      obtain ⟨n, hn⟩ := ih
      exact ⟨max n (z + 1), List.forall_mem_cons.mpr ⟨Nat.lt_of_lt_of_le (Nat.lt_succ_self z) (Nat.le_max_right ..),
        fun y hy => Nat.lt_of_lt_of_le (hn y hy) (Nat.le_max_left ..)⟩⟩
  obtain ⟨n, hn⟩ := bound (a ++ b)
  have hn' : ∀ l, l ⊆ a ++ b → l.contains n = false := fun l hl => by
    rw [List.contains_eq_mem, decide_eq_false_iff_not]
    exact fun h => Nat.lt_irrefl _ (hn n (hl h))
  exact ⟨n, hn' a (List.subset_append_left a b), hn' b (List.subset_append_right a b)⟩

@[simp] theorem mem_empty (x : Nat) : mem x empty = false := rfl

end Mosaik.IOSet
