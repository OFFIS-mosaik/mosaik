/-
What `stopFrom` and `shutdown` (`MosaikModel/RunShutdown.lean`) compute, as the statements of C14 use it.
-/
import MosaikModel.RunShutdown
namespace Mosaik.C14
open Mosaik.RunShutdown

theorem stopFrom_skip (stopRaises : Nat → Option Nat) (m k : Nat) :
    ∀ (i : Nat) (log : List Nat), (∀ x ∈ List.range' i m, stopRaises x = none) →
      stopFrom stopRaises (m + k) i log = stopFrom stopRaises k (i + m) ((List.range' i m).reverse ++ log) := by
  induction m with
  | zero =>
    intro i log _
    rw [Nat.zero_add]
    rfl
  | succ m ih =>
    intro i log hnone
    rw [List.range'_succ] at hnone ⊢
    obtain ⟨hi, hrest⟩ := List.forall_mem_cons.mp hnone
    rw [Nat.succ_add, stopFrom, hi, ih (i + 1) (i :: log) hrest]
    rw [List.reverse_cons, List.append_assoc, Nat.succ_add_eq_add_succ]
    rfl

theorem stopFrom_all (k i : Nat) (log : List Nat) :
    stopFrom (fun _ => none) k i log = ((List.range' i k).reverse ++ log, none) :=
  stopFrom_skip (fun _ => none) k 0 i log fun _ _ => rfl

/-- `shutdown()` on an open loop when no `stop()` raises: every simulator is stopped in order; the loop is closed
unless the scheduler task is still pending, in which case the exception comes up again -/
theorem shutdown_ok (w : WorldSt) (hopen : w.loopClosed = false) :
    shutdown (fun _ => none) w =
      ({ w with stops := (List.range w.n).reverse ++ w.stops, loopClosed := !w.mainPending },
       if w.mainPending then some resurfaced else none) := by
  simp only [shutdown, hopen, Bool.false_eq_true, if_false, stopFrom_all, List.range_eq_range']
  cases w.mainPending <;> rfl

theorem shutdown_mainPending (stopRaises : Nat → Option Nat) (w : WorldSt) :
    (shutdown stopRaises w).1.mainPending = w.mainPending := by
  unfold shutdown
  split
  · rfl
  · split
    · rfl
    · split <;> rfl

theorem sum_falls {a b c d a' b' c' d' : Nat} (ha : a' ≤ a) (hb : b' ≤ b) (hc : c' ≤ c) (hd : d' ≤ d)
    (h : a' < a ∨ b' < b ∨ c' < c ∨ d' < d) : a' + b' + c' + d' < a + b + c + d := by
  omega

end Mosaik.C14
