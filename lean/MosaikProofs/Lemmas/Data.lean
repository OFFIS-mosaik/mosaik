/-
Lemmas about the flattened input dictionaries (`InputData`): lookups, and the folds of `InputData.set` over buffer entries.
-/
import MosaikModel.Sched
import MosaikProofs.Lemmas.Assoc
namespace Mosaik

namespace InputData

theorem get?_nil (k : InKey) : get? [] k = none := rfl

theorem get?_cons (e : InKey × Val) (d : InputData) (k : InKey) :
    get? (e :: d) k = if e.1 = k then some e.2 else get? d k := assocGet_cons e d k

theorem has_eq (d : InputData) (k : InKey) : has d k = (get? d k).isSome := any_eq_isSome_assocGet d k

theorem get?_append_single (d : InputData) (k k' : InKey) (v : Val) :
    get? (d ++ [(k, v)]) k' = match get? d k' with | some x => some x | none => if k = k' then some v else none := by
  refine (assocGet_append d [(k, v)] k').trans ?_
  show (get? d k').or _ = _
  cases get? d k' with
  | some x => rfl
  | none => exact assocGet_cons (k, v) [] k'

theorem get?_set_same (d : InputData) (k : InKey) (v : Val) : get? (set d k v) k = some v := assocGet_put_same d k v

theorem get?_set_other (d : InputData) (k k' : InKey) (v : Val) (hne : k ≠ k') : get? (set d k v) k' = get? d k' :=
  assocGet_put_ne d v hne.symm

end InputData

theorem foldl_set_other (es : List BufEntry) (inp : InputData) (k : InKey) (h : ∀ e ∈ es, e.key ≠ k) :
    InputData.get? (es.foldl (fun acc e => InputData.set acc e.key e.val) inp) k = InputData.get? inp k :=
  assocGet_foldl_put_other BufEntry.key BufEntry.val es inp k h

theorem foldl_set_last (pre : List BufEntry) (e : BufEntry) (rest : List BufEntry) (inp : InputData) (hrest : ∀ f ∈ rest, f.key ≠ e.key) :
    InputData.get? ((pre ++ e :: rest).foldl (fun acc e => InputData.set acc e.key e.val) inp) e.key = some e.val :=
  assocGet_foldl_put_last BufEntry.key BufEntry.val pre e rest inp hrest

end Mosaik
