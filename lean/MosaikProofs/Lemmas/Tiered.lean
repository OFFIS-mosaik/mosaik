/-
Helper lemmas about the tiered-time model: tier-wise characterisations, the lexicographic order
on `List Nat` (core's `<` / `≤`), and `addTiers`, the one operation behind both `act` and `add`:
its composition law is the action law and associativity, its monotonicity in either argument
is that of `act` and of `add`.  Then the order of delays of one shape (`TI.le`, `TI.lt`) and, at the end,
comparable delays (`C08.SameShape`).
-/
import MosaikModel.Tiered
import MosaikProofs.Lemmas.Assoc
namespace Mosaik

theorem tier_eq_getElem {l : List Nat} {i : Nat} (h : i < l.length) : tier l i = l[i] := by
  simp [tier, List.getD_eq_getElem?_getD, h]

theorem tier_eq_zero {l : List Nat} {i : Nat} (h : l.length ≤ i) : tier l i = 0 := getD_of_ge 0 h

theorem tier_replicate_zero (n i : Nat) : tier (List.replicate n 0) i = 0 := getD_replicate n i 0

theorem tier_set (l : List Nat) (k v j : Nat) :
    tier (l.set k v) j = if j = k ∧ k < l.length then v else tier l j := getD_set l k j v 0

theorem tier_map_range (n : Nat) (f : Nat → Nat) (i : Nat) :
    tier ((List.range n).map f) i = if i < n then f i else 0 := by
  unfold tier
  by_cases h : i < n <;> simp [h, List.getD_eq_getElem?_getD]

theorem list_ext_tier {l m : List Nat} (hl : l.length = m.length)
    (h : ∀ i, i < l.length → tier l i = tier m i) : l = m := by
  apply List.ext_getElem hl
  intro i h1 h2
  have := h i h1
  rwa [tier_eq_getElem h1, tier_eq_getElem h2] at this

namespace TT

/-- no hypothesis on the lengths: tiers are 0-padded, so the smaller tier cannot lie beyond the end of `b` -/
theorem lt_of_tier_lt {a b : List Nat} (i : Nat) (hpre : ∀ j, j < i → tier a j = tier b j) (hlt : tier a i < tier b i) :
    a < b := by
  induction b generalizing a i with
  | nil => exact absurd hlt (Nat.not_lt_zero _)
  | cons y b ih =>
    cases a with
    | nil => exact List.nil_lt_cons ..
    | cons x a =>
      cases i with
      | zero => exact List.cons_lt_cons_iff.mpr (.inl hlt)
      | succ i =>
        exact List.cons_lt_cons_iff.mpr (.inr ⟨hpre 0 (Nat.succ_pos i), ih i (fun j hj => hpre (j + 1) (Nat.succ_lt_succ hj)) hlt⟩)

theorem lt_iff_of_length_eq {a b : List Nat} (h : a.length = b.length) :
    a < b ↔ ∃ i, i < a.length ∧ (∀ j, j < i → tier a j = tier b j) ∧ tier a i < tier b i := by
  refine ⟨fun hlt => ?_, fun ⟨i, _, hpre, hlt⟩ => lt_of_tier_lt i hpre hlt⟩
  rcases List.lt_iff_exists.mp hlt with ⟨_, hlt⟩ | ⟨i, h1, h2, hpre, hlt⟩
  · exact absurd h (Nat.ne_of_lt hlt)
  · refine ⟨i, h1, fun j hj => ?_, ?_⟩
    · rw [tier_eq_getElem (Nat.lt_trans hj h1), tier_eq_getElem (Nat.lt_trans hj h2)]
      exact hpre j hj
    · rwa [tier_eq_getElem h1, tier_eq_getElem h2]

/-! The order lemmas of `List Nat` under the names of `TT` (an `abbrev`): under Mathlib, which `Closure/Terminate.lean` imports, `≤` on
`List ℕ` elaborates to another instance, and proofs that go through these names are unaffected. -/

theorem le_refl (a : List Nat) : a ≤ a := List.le_refl a
theorem le_trans {a b c : List Nat} (h1 : a ≤ b) (h2 : b ≤ c) : a ≤ c := List.le_trans h1 h2
theorem lt_of_le_of_lt {a b c : List Nat} (h1 : a ≤ b) (h2 : b < c) : a < c := List.lt_of_le_of_lt h1 h2
theorem lt_of_lt_of_le {a b c : List Nat} (h1 : a < b) (h2 : b ≤ c) : a < c := by
  rcases List.le_iff_lt_or_eq.mp h2 with h | h
  · exact List.lt_trans h1 h
  · exact h ▸ h1
theorem lt_trans {a b c : List Nat} (h1 : a < b) (h2 : b < c) : a < c := List.lt_trans h1 h2
theorem le_of_lt {a b : List Nat} (h : a < b) : a ≤ b := List.le_of_lt h
theorem le_total (a b : List Nat) : a ≤ b ∨ b ≤ a := List.le_total a b
theorem lt_irrefl (a : List Nat) : ¬ a < a := List.lt_irrefl a
theorem not_lt {a b : List Nat} : ¬ a < b ↔ b ≤ a := List.not_lt
theorem not_le {a b : List Nat} : ¬ a ≤ b ↔ b < a := List.not_le
theorem le_antisymm {a b : List Nat} (h1 : a ≤ b) (h2 : b ≤ a) : a = b := List.le_antisymm h1 h2
theorem le_of_eq {a b : List Nat} (h : a = b) : a ≤ b := h ▸ le_refl a
theorem lt_or_ge (a b : List Nat) : a < b ∨ b ≤ a := (Decidable.em (a < b)).imp_right not_lt.mp
theorem le_iff_lt_or_eq {a b : List Nat} : a ≤ b ↔ a < b ∨ a = b := List.le_iff_lt_or_eq

theorem lt_of_time_lt {a b : List Nat} (h : time a < time b) : a < b :=
  lt_of_tier_lt 0 (fun _ hj => absurd hj (Nat.not_lt_zero _)) h

theorem time_mono {a b : List Nat} (h : a ≤ b) : time a ≤ time b :=
  Nat.le_of_not_lt fun hlt => not_lt.mpr h (lt_of_time_lt hlt)

end TT

theorem zero_le_of_length_le (k : Nat) (l : List Nat) (h : k ≤ l.length) : TT.zero k ≤ l := by
  apply TT.not_lt.mp
  intro hlt
  rw [List.lt_iff_exists] at hlt
  rcases hlt with ⟨_, hl⟩ | ⟨i, h1, h2, _, hi⟩
  · simp [TT.zero] at hl; omega
  · simp [TT.zero] at hi

namespace TI

@[simp] theorem addTiers_length (a b : List Nat) (c : Nat) : (addTiers a b c).length = b.length := by
  simp [addTiers]

theorem tier_addTiers (a b : List Nat) (c i : Nat) :
    tier (addTiers a b c) i = if i < b.length then (if i < c then tier a i + tier b i else tier b i) else 0 := by
  rw [addTiers, tier_map_range]

theorem tier_addTiers_lt {a b : List Nat} {c i : Nat} (hc : i < c) (hb : i < b.length) :
    tier (addTiers a b c) i = tier a i + tier b i := by
  rw [tier_addTiers, if_pos hb, if_pos hc]

theorem tier_addTiers_ge {a b : List Nat} {c i : Nat} (hc : c ≤ i) :
    tier (addTiers a b c) i = tier b i := by
  rw [tier_addTiers, if_neg (Nat.not_lt.mpr hc)]
  split
  · rfl
  · rename_i hb
    exact (tier_eq_zero (Nat.le_of_not_lt hb)).symm

theorem addTiers_addTiers (t a b : List Nat) (ca : Nat) {cb : Nat} (h : cb ≤ a.length) :
    addTiers (addTiers t a ca) b cb = addTiers t (addTiers a b cb) (min ca cb) := by
  apply list_ext_tier (by simp)
  intro i hi
  rw [addTiers_length] at hi
  by_cases h1 : i < cb
  · rw [tier_addTiers_lt h1 hi]
    by_cases h2 : i < ca
    · rw [tier_addTiers_lt h2 (Nat.lt_of_lt_of_le h1 h), tier_addTiers_lt (Nat.lt_min.mpr ⟨h2, h1⟩) (by rwa [addTiers_length]),
        tier_addTiers_lt h1 hi, Nat.add_assoc]
    · have h2 := Nat.le_of_not_lt h2
      rw [tier_addTiers_ge h2, tier_addTiers_ge (Nat.le_trans (Nat.min_le_left ..) h2), tier_addTiers_lt h1 hi]
  · have h1 := Nat.le_of_not_lt h1
    rw [tier_addTiers_ge h1, tier_addTiers_ge (Nat.le_trans (Nat.min_le_right ..) h1), tier_addTiers_ge h1]

theorem addTiers_mono_left (b : List Nat) (c : Nat) {a a' : List Nat} (h : a ≤ a') :
    addTiers a b c ≤ addTiers a' b c := by
  apply TT.not_lt.mp
  intro hlt
  obtain ⟨i, hi, hpre, hlt⟩ := (TT.lt_iff_of_length_eq (by simp)).mp hlt
  rw [addTiers_length] at hi
  by_cases hc : i < c
  · -- the first difference lies below the cutoff: it is a first difference of `a'` and `a`
    rw [tier_addTiers_lt hc hi, tier_addTiers_lt hc hi] at hlt
    refine TT.not_lt.mpr h (TT.lt_of_tier_lt i (fun j hj => ?_) (Nat.lt_of_add_lt_add_right hlt))
    have := hpre j hj
    rw [tier_addTiers_lt (Nat.lt_trans hj hc) (Nat.lt_trans hj hi),
      tier_addTiers_lt (Nat.lt_trans hj hc) (Nat.lt_trans hj hi)] at this
    exact Nat.add_right_cancel this
  · rw [tier_addTiers_ge (Nat.le_of_not_lt hc), tier_addTiers_ge (Nat.le_of_not_lt hc)] at hlt
    exact Nat.lt_irrefl _ hlt

theorem addTiers_strictMono_right (a : List Nat) (c : Nat) {b b' : List Nat} (hl : b.length = b'.length)
    (h : b < b') : addTiers a b c < addTiers a b' c := by
  obtain ⟨i, hi, hpre, hlt⟩ := (TT.lt_iff_of_length_eq hl).mp h
  refine TT.lt_of_tier_lt i (fun j hj => ?_) ?_
  · rw [tier_addTiers, tier_addTiers, ← hl, hpre j hj]
  · rw [tier_addTiers, tier_addTiers, ← hl, if_pos hi, if_pos hi]
    split
    · exact Nat.add_lt_add_left hlt _
    · exact hlt

theorem addTiers_mono_right (a : List Nat) (c : Nat) {b b' : List Nat} (hl : b.length = b'.length)
    (h : b ≤ b') : addTiers a b c ≤ addTiers a b' c := by
  rcases TT.le_iff_lt_or_eq.mp h with h | rfl
  · exact TT.le_of_lt (addTiers_strictMono_right a c hl h)
  · exact TT.le_refl _

@[simp] theorem act_length (t : TT) (d : TI) : (act t d).length = d.tiers.length := by simp [act]
@[simp] theorem add_length (a b : TI) : (add a b).tiers.length = b.tiers.length := by simp [add]
@[simp] theorem add_cutoff (a b : TI) : (add a b).cutoff = min a.cutoff b.cutoff := rfl
@[simp] theorem add_pre (a b : TI) : (add a b).pre = a.pre := rfl

theorem tier_act (t : TT) (d : TI) (i : Nat) :
    tier (act t d) i = if i < d.tiers.length then (if i < d.cutoff then tier t i + tier d.tiers i else tier d.tiers i) else 0 :=
  tier_addTiers _ _ _ _

theorem tier_add (a b : TI) (i : Nat) :
    tier (add a b).tiers i = if i < b.tiers.length then (if i < b.cutoff then tier a.tiers i + tier b.tiers i else tier b.tiers i) else 0 :=
  tier_addTiers _ _ _ _

theorem act?_eq_some_iff {t u : TT} {d : TI} : act? t d = some u ↔ t.length = d.pre ∧ act t d = u := by
  unfold act?
  split <;> simp [*]

theorem add?_eq_some_iff {a b ab : TI} : add? a b = some ab ↔ a.tiers.length = b.pre ∧ add a b = ab := by
  unfold add?
  split <;> simp [*]

theorem act_act (t : TT) (a b : TI) (hb : b.cutoff ≤ a.tiers.length) :
    act (act t a) b = act t (add a b) :=
  addTiers_addTiers t a.tiers b.tiers a.cutoff hb

theorem add_assoc (a b c : TI) (hc : c.cutoff ≤ b.tiers.length) :
    add (add a b) c = add a (add b c) := by
  simp only [add, addTiers_addTiers _ _ _ _ hc, Nat.min_assoc]

theorem act_mono_left (d : TI) {t t' : TT} (h : t ≤ t') : act t d ≤ act t' d :=
  addTiers_mono_left _ _ h

/-- the order on delays of one shape: same pre-length, cutoff and length, tiers compared
lexicographically (this is what `TieredInterval.__le__` computes for equal cutoffs) -/
def le (a b : TI) : Prop :=
  a.pre = b.pre ∧ a.cutoff = b.cutoff ∧ a.tiers.length = b.tiers.length ∧ a.tiers ≤ b.tiers

def lt (a b : TI) : Prop :=
  a.pre = b.pre ∧ a.cutoff = b.cutoff ∧ a.tiers.length = b.tiers.length ∧ a.tiers < b.tiers

theorem le.pre {a b : TI} (h : le a b) : a.pre = b.pre := h.1
theorem le.cutoff {a b : TI} (h : le a b) : a.cutoff = b.cutoff := h.2.1
theorem le.length {a b : TI} (h : le a b) : a.tiers.length = b.tiers.length := h.2.2.1
theorem le.tiers {a b : TI} (h : le a b) : a.tiers ≤ b.tiers := h.2.2.2

theorem lt.pre {a b : TI} (h : lt a b) : a.pre = b.pre := h.1
theorem lt.cutoff {a b : TI} (h : lt a b) : a.cutoff = b.cutoff := h.2.1
theorem lt.length {a b : TI} (h : lt a b) : a.tiers.length = b.tiers.length := h.2.2.1
theorem lt.tiers {a b : TI} (h : lt a b) : a.tiers < b.tiers := h.2.2.2

theorem le_refl (a : TI) : le a a := ⟨rfl, rfl, rfl, TT.le_refl _⟩

theorem le_trans {a b c : TI} (h1 : le a b) (h2 : le b c) : le a c :=
  ⟨h1.pre.trans h2.pre, h1.cutoff.trans h2.cutoff, h1.length.trans h2.length, TT.le_trans h1.tiers h2.tiers⟩

theorem le_of_lt {a b : TI} (h : lt a b) : le a b := ⟨h.pre, h.cutoff, h.length, TT.le_of_lt h.tiers⟩

theorem act_strict_mono_right (t : TT) {a b : TI} (h : lt a b) : act t a < act t b := by
  rw [act, act, ← h.cutoff]
  exact addTiers_strictMono_right t _ h.length h.tiers

theorem act_mono_right (t : TT) {a b : TI} (h : le a b) : act t a ≤ act t b := by
  rw [act, act, ← h.cutoff]
  exact addTiers_mono_right t _ h.length h.tiers

theorem add_mono_right (c : TI) {a b : TI} (h : le a b) : le (add c a) (add c b) :=
  ⟨rfl, congrArg (min c.cutoff) h.cutoff, by rw [add_length, add_length, h.length], by
    rw [add, add, ← h.cutoff]
    exact addTiers_mono_right _ _ h.length h.tiers⟩

theorem add_mono_left (c : TI) {a b : TI} (h : le a b) : le (add a c) (add b c) :=
  ⟨h.pre, congrArg (min · c.cutoff) h.cutoff, by rw [add_length, add_length], addTiers_mono_left _ _ h.tiers⟩

end TI

theorem ofWorld_length (depth n : Nat) : (ofWorld depth n).length = depth := by
  simp [ofWorld, fromWorld]

theorem tier_ofWorld (depth n i : Nat) : tier (ofWorld depth n) i = if i = 0 ∧ 0 < depth then n else 0 := by
  unfold ofWorld
  rw [TI.tier_act]
  simp only [fromWorld, List.length_replicate, tier_replicate_zero, Nat.add_zero, Nat.lt_one_iff]
  cases i with
  | zero => simp [tier]
  | succ i => simp

theorem time_ofWorld {depth : Nat} (h : 0 < depth) (n : Nat) : TT.time (ofWorld depth n) = n := by
  rw [TT.time, tier_ofWorld, if_pos ⟨rfl, h⟩]

theorem time_ofWorld_le (depth n : Nat) : TT.time (ofWorld depth n) ≤ n := by
  rw [TT.time, tier_ofWorld]
  split <;> omega

theorem flat_lt {a b : TT} (ha : a.length = 1) (hb : b.length = 1) : a < b ↔ TT.time a < TT.time b := by
  match a, b, ha, hb with
  | [x], [y], _, _ => simp [TT.time, tier, List.cons_lt_cons_iff]

theorem flat_act_time (t : TT) {d : TI} (hc : d.cutoff = 1) (hl : d.tiers.length = 1) :
    TT.time (TI.act t d) = TT.time t + tier d.tiers 0 := by
  unfold TT.time
  rw [TI.tier_act]
  simp [hc, hl]

theorem flat_lt_act {b c : TT} {d : TI} (hb : b.length = 1) (hc : d.cutoff = 1) (hl : d.tiers.length = 1) :
    b < TI.act c d ↔ TT.time b < TT.time c + tier d.tiers 0 := by
  rw [flat_lt hb (by rw [TI.act_length, hl]), flat_act_time c hc hl]

theorem TI.isZero_iff (d : TI) : d.isZero = true ↔ ∀ i, tier d.tiers i = 0 := by
  unfold TI.isZero
  rw [List.all_eq_true]
  constructor
  · intro h i
    by_cases hi : i < d.tiers.length
    · rw [tier_eq_getElem hi]
      simpa using h _ (List.getElem_mem hi)
    · exact tier_eq_zero (by omega)
  · intro h x hx
    obtain ⟨i, hi, rfl⟩ := List.getElem_of_mem hx
    have := h i
    rw [tier_eq_getElem hi] at this
    simpa using this

theorem tiers_eq_of_le_zero {a z : List Nat} (hl : a.length = z.length) (hz : ∀ i, tier z i = 0) (h : a ≤ z) : ∀ i, tier a i = 0 := by
  rcases TT.le_iff_lt_or_eq.mp h with hlt | heq
  · rw [TT.lt_iff_of_length_eq hl] at hlt
    obtain ⟨i, _, _, hi⟩ := hlt
    rw [hz i] at hi
    omega
  · rw [heq]; exact hz

theorem TI.isZero_of_le {e d : TI} (h : TI.le e d) (hz : d.isZero = true) : e.isZero = true :=
  (TI.isZero_iff e).mpr (tiers_eq_of_le_zero h.length ((TI.isZero_iff d).mp hz) h.tiers)

/-! Comparable delays and the loop of `TieredInterval.__lt__` on them. The names are those of property C08
(`Properties/C08.lean`), whose statements these serve. -/
namespace C08

def SameShape (a b : TI) : Prop :=
  a.tiers.length = b.tiers.length ∧ a.pre = b.pre ∧ a.cutoff = b.cutoff

instance (a b : TI) : Decidable (SameShape a b) := by unfold SameShape; exact inferInstance

theorem SameShape.length {a b : TI} (h : SameShape a b) : a.tiers.length = b.tiers.length := h.1
theorem SameShape.pre {a b : TI} (h : SameShape a b) : a.pre = b.pre := h.2.1
theorem SameShape.cutoff {a b : TI} (h : SameShape a b) : a.cutoff = b.cutoff := h.2.2

theorem SameShape.refl (a : TI) : SameShape a a := ⟨rfl, rfl, rfl⟩

theorem SameShape.symm {a b : TI} (h : SameShape a b) : SameShape b a := ⟨h.length.symm, h.pre.symm, h.cutoff.symm⟩

theorem SameShape.trans {a b c : TI} (h : SameShape a b) (h' : SameShape b c) : SameShape a c :=
  ⟨h.length.trans h'.length, h.pre.trans h'.pre, h.cutoff.trans h'.cutoff⟩

theorem SameShape.of_le {a b : TI} (h : TI.le a b) : SameShape a b := ⟨h.length, h.pre, h.cutoff⟩

theorem SameShape.eq_iff {a b : TI} (h : SameShape a b) : a = b ↔ a.tiers = b.tiers := by
  obtain ⟨_, hp, hc⟩ := h
  cases a
  cases b
  simp_all

theorem ltLoop_same_cutoff (c i : Nat) (s o : List Nat) (h : s.length = o.length) :
    TI.ltLoop c c i s o = some (decide (s < o)) := by
  induction s generalizing i o with
  | nil =>
    cases o with
    | nil => rfl
    | cons _ _ => cases h
  | cons x xs ih =>
    cases o with
    | nil => cases h
    | cons y ys =>
      have hno : ¬ (c ≤ i ∧ i < c) := fun h => Nat.lt_irrefl _ (Nat.lt_of_le_of_lt h.1 h.2)
      rw [TI.ltLoop, if_neg hno, if_neg hno, ih (i + 1) ys (Nat.succ.inj h)]
      rcases Nat.lt_trichotomy x y with h1 | rfl | h1
      · simp [h1, List.cons_lt_cons_iff]
      · simp
      · simp [h1, Nat.lt_asymm h1, Nat.ne_of_gt h1, List.cons_lt_cons_iff]

theorem ltLoop_asymm (ca cb i : Nat) (s o : List Nat) (h : TI.ltLoop ca cb i s o = some true) :
    TI.ltLoop cb ca i o s = some false := by
  induction s generalizing i o with
  | nil => cases h
  | cons x xs ih =>
    cases o with
    | nil => cases h
    | cons y ys =>
      rw [TI.ltLoop] at h ⊢
      rcases Nat.lt_trichotomy x y with h1 | rfl | h1
      · rw [if_pos h1] at h
        rw [if_neg (Nat.lt_asymm h1), if_pos h1]
        split at h
        · cases h
        · rename_i h3
          rw [if_neg h3]
      · rw [if_neg (Nat.lt_irrefl _), if_neg (Nat.lt_irrefl _)] at h ⊢
        exact ih (i + 1) ys h
      · rw [if_neg (Nat.lt_asymm h1), if_pos h1] at h
        split at h <;> cases h

end C08

end Mosaik
