/-
C13  Runtime validation of simulator replies.

`rejects_*` : each malformed reply, in whatever state it arrives, aborts the run with an error that names the simulator
              (decision logic, stated outright; needs no invariant)
`absorbing`, `rejected_changes_nothing` : after the abort no action is enabled (no further step is begun), and a rejected
              `step` reply changed nothing of the control state of any simulator
`only_for_these_reasons` : conversely a reply is rejected only for one of these reasons
-/
import MosaikProofs.Sched.Trace
namespace Mosaik.C13
open Mosaik

/-- a reply is expected from `p` (its step request is out) -/
def AwaitingStep (cfg : Cfg) (s : State) (p : Sid) (c : TT) : Prop :=
  s.failed = none ∧ p < cfg.n ∧ (s.sims p).pc = .inStep ∧ (s.sims p).cur = some c
def AwaitingData (cfg : Cfg) (s : State) (p : Sid) (c : TT) : Prop :=
  s.failed = none ∧ p < cfg.n ∧ (s.sims p).pc = .inGet ∧ (s.sims p).cur = some c

theorem AwaitingStep.reply {cfg : Cfg} {s : State} {p : Sid} {c : TT} (h : AwaitingStep cfg s p c) (r : StepReply) :
    step cfg s (.stepReply p r) = some (processStepReply cfg s p c r) := by
  obtain ⟨h1, h2, h3, h4⟩ := h
  exact (Fires.stepReply p r c h1 h2 h3 h4).step

theorem AwaitingData.reply {cfg : Cfg} {s : State} {p : Sid} {c : TT} (h : AwaitingData cfg s p c) (d : DataReply) :
    step cfg s (.dataReply p d) = some (processDataReply cfg s p c d) := by
  obtain ⟨h1, h2, h3, h4⟩ := h
  exact (Fires.dataReply p d c h1 h2 h3 h4).step

/-- a next-step time that is not an integer -/
theorem rejects_non_integer {cfg : Cfg} {s : State} {p : Sid} {c : TT} (h : AwaitingStep cfg s p c) :
    ∃ s', step cfg s (.stepReply p .bad) = some s' ∧ s'.failed = some (.badReply p .notInt) :=
  ⟨_, h.reply .bad, State.fail_eq _ _ h.1⟩

/-- a next-step time that is not later than the current step (equal, earlier, negative) -/
theorem rejects_not_later {cfg : Cfg} {s : State} {p : Sid} {c : TT} (h : AwaitingStep cfg s p c) (n : Int)
    (hn : n ≤ (TT.time c : Int)) :
    ∃ s', step cfg s (.stepReply p (.int n)) = some s' ∧ s'.failed = some (.badReply p .notLater) := by
  refine ⟨_, h.reply (.int n), ?_⟩
  unfold processStepReply
  simp only [if_pos hn]
  exact State.fail_eq _ _ h.1

/-- a time-based simulator returning no next step -/
theorem rejects_no_next_step {cfg : Cfg} {s : State} {p : Sid} {c : TT} (h : AwaitingStep cfg s p c)
    (hty : (cfg.sim p).ty = .timeBased) :
    ∃ s', step cfg s (.stepReply p .none) = some s' ∧ s'.failed = some (.badReply p .noNextStep) := by
  refine ⟨_, h.reply .none, ?_⟩
  unfold processStepReply
  simp only [if_pos hty]
  exact State.fail_eq _ _ h.1

/-- an output time earlier than the step time -/
theorem rejects_early_output_time {cfg : Cfg} {s : State} {p : Sid} {c : TT} (h : AwaitingData cfg s p c)
    (d : DataReply) (t : Int) (hd : d.time = some t) (ht : t < (TT.time c : Int)) :
    ∃ s', step cfg s (.dataReply p d) = some s' ∧ s'.failed = some (.badReply p .outputTimeEarly) := by
  refine ⟨_, h.reply d, ?_⟩
  rcases processDataReply_cases cfg s p c d with ⟨_, e⟩ | ⟨hot, _⟩
  · rw [e]; exact State.fail_eq _ _ h.1
  · simp only [outTimeOf, hd, Option.getD_some] at hot
    omega

/-- a rejected `step` reply is never turned into a scheduled step or any other change of control state (`CtrlEq`: program
counter, progress, schedule, step in flight and begun steps of every simulator; the model writes `last_step` and the log).
A rejected `get_data` reply is not covered. -/
theorem rejected_changes_nothing {cfg : Cfg} {s s' : State} {p : Sid} {r : StepReply} {k : ReplyKind}
    (h : step cfg s (.stepReply p r) = some s') (he : s'.failed = some (.badReply p k)) (hw : WFCfg cfg) (hg : Good cfg s) :
    CtrlEq s s' := by
  cases step_fires h with
  | stepReply p r c hf hp hpc hcur =>
    rcases processStepReply_cases cfg s p c r with ⟨k', _, e⟩ | ⟨hv, e⟩
    · intro q
      rw [e, State.fail_sims, stepped_sims]
      rfl
    · -- a reply that is accepted does not fail
      obtain ⟨hc, hpcs⟩ := hg hf
      obtain ⟨g1, g2⟩ := replied_good hw hp hc hpcs hcur hv
      have hnf := (afterStep_good hw hp (by rw [replied_state]; exact hf) g1 g2 (c := c) (by rw [replied_sims]; exact hcur)).1
      rw [e, hnf] at he
      cases he

/-- after the abort nothing happens any more: no action is enabled, in particular no step begins -/
theorem absorbing {cfg : Cfg} {s : State} (h : s.failed.isSome = true) (a : Action) : step cfg s a = none :=
  step_none_of_failed h a

/-- conversely: a run fails with a bad-reply error only for one of the four reasons above, and the error names the simulator
that sent the reply -/
theorem only_for_these_reasons {cfg : Cfg} (hw : WFCfg cfg) {s s' : State} {a : Action} (hr : Reach cfg s)
    (h : step cfg s a = some s') (p : Sid) (k : ReplyKind) (he : s'.failed = some (.badReply p k)) :
    Cause cfg s a (.badReply p k) :=
  step_err hw (reach_good hw hr) h _ he

end Mosaik.C13
