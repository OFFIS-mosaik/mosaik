/-
C06  Cycle detection is exact.

`ensure_no_dataflow_cycles` rejects when the delays along some cycle sum to the all-zero interval.
* The algebra of `TieredInterval.__add__`, for paths of any length over groups of any depth (`pathSum` = its left fold along
  the path; the worklist and `RealPath` nest to the right, and no theorem links the two): `shifted_resolves`,
  `weak_inside_resolves`, `leaving_erases`, `plain_unresolved`, `weak_then_leave_unresolved`.
* The worklist: `reject_sound`, `accept_complete`, together `cycle_check_exact`, for every pop order; `worklist_terminates`,
  `cycle_check_total_exact`, for a finite oracle of pop indices continued with index 0.  Hypotheses: connection tables that
  are well-shaped, dict-like and `Uniform` (all paths between two simulators have one cutoff: exactly the complement of
  finding D7-reentrant-paths, where the delays are not totally ordered and the outcome depends on the pop order).
  `exact_of_checks`, `exact_of_uniformB`: the same from the executable checks the driver evaluates on every generated graph
  (`w.cychyp`); `…_built`, `…_flat`: for the scenarios `connect` builds.
  `found_cycle_is_zero`, `accepted_iff`, `reject_sound`, `accept_complete`, `no_assertion_uniform`, `cycle_check_total_exact` are
  the names under which the property is audited; they are proved in `Closure/Sound.lean`, `Complete.lean`, `Terminate.lean`.
NOT proved (see DESIGN.md): that the model's own fuel `closureFuel n` is enough (no bound on the number of pops is claimed;
in the D7 class the worklist genuinely need not terminate); that is decided by the correspondence (model = code for several
pop orders; a `nonterminating` answer of the driver would be a disagreement) and by the graph-level specification monitor on the
implementation.
-/
import MosaikProofs.Build.RunConfig
import MosaikProofs.Closure.Terminate
namespace Mosaik.C06
open Mosaik TI

/-- the accumulated delay of a path: first connection `d`, then `ds` -/
def pathSum (d : TI) (ds : List TI) : TI := ds.foldl TI.add d

theorem pathSum_snoc (d : TI) (ds : List TI) (x : TI) : pathSum d (ds ++ [x]) = TI.add (pathSum d ds) x :=
  List.foldl_concat ..

theorem pathSum_cons (d : TI) (x : TI) (ds : List TI) : pathSum d (x :: ds) = pathSum (TI.add d x) ds := rfl

theorem le_sum_of_mem (l : List Nat) (x : Nat) (h : x ∈ l) : x ≤ l.sum := by
  induction l with
  | nil => cases h
  | cons y ys ih =>
    rw [List.sum_cons]
    rcases List.mem_cons.mp h with rfl | h
    · exact Nat.le_add_right _ _
    · exact Nat.le_trans (ih h) (Nat.le_add_left _ _)

theorem tier_sum_inside (j : Nat) (ds : List TI) (d : TI) (h : ∀ x ∈ ds, j < x.cutoff ∧ j < x.tiers.length) :
    tier (pathSum d ds).tiers j = tier d.tiers j + (ds.map fun x => tier x.tiers j).sum := by
  induction ds generalizing d with
  | nil => rfl
  | cons x ds ih =>
    have hx := h x List.mem_cons_self
    rw [pathSum_cons, ih (TI.add d x) (fun y hy => h y (List.mem_cons_of_mem _ hy)), tier_add,
      if_pos hx.2, if_pos hx.1, List.map_cons, List.sum_cons, Nat.add_assoc]

/-- a weak connection (a positive sub-tier `j`) resolves a cycle that stays inside the group it shares: all cutoffs are above
`j`, so the sub-tier accumulates and cannot vanish -/
theorem weak_inside_resolves (j : Nat) (d : TI) (ds : List TI)
    (hin : ∀ x ∈ ds, j < x.cutoff ∧ j < x.tiers.length)
    (h : 0 < tier d.tiers j ∨ ∃ x ∈ ds, 0 < tier x.tiers j) : (pathSum d ds).isZero = false := by
  rw [Bool.eq_false_iff]
  intro hz
  have h0 := (isZero_iff _).mp hz j
  rw [tier_sum_inside j ds d hin] at h0
  rcases h with h | ⟨x, hx, hpos⟩
  · omega
  · have := le_sum_of_mem _ _ (List.mem_map_of_mem (f := fun x => tier x.tiers j) hx)
    omega

/-- a time-shifted connection resolves every cycle it is on: tier 0 (world time) is added by every connection, so the sum's
tier 0 is the sum of all shifts -/
theorem shifted_resolves (d : TI) (ds : List TI) (hwf : ∀ x ∈ ds, x.WF)
    (h : 0 < tier d.tiers 0 ∨ ∃ x ∈ ds, 0 < tier x.tiers 0) : (pathSum d ds).isZero = false :=
  weak_inside_resolves 0 d ds (fun x hx => ⟨(hwf x hx).1, Nat.lt_of_lt_of_le (hwf x hx).1 (hwf x hx).2.2⟩) h

/-- leaving the group erases the sub-tier: after a connection whose cutoff is at most `j`, tier `j` of the sum is that
connection's own tier `j` (zero for a connection built by `connect_interval`), whatever was accumulated before -/
theorem leaving_erases (j : Nat) (d : TI) (ds : List TI) (x : TI) (hx : x.cutoff ≤ j) :
    tier (pathSum d (ds ++ [x])).tiers j = tier x.tiers j := by
  rw [pathSum_snoc]
  exact tier_addTiers_ge hx

/-- … and stays erased along connections that do not touch it -/
theorem stays_zero (j : Nat) (ds : List TI) (d : TI) (hd : tier d.tiers j = 0) (h : ∀ x ∈ ds, tier x.tiers j = 0) :
    tier (pathSum d ds).tiers j = 0 := by
  induction ds generalizing d with
  | nil => exact hd
  | cons x ds ih =>
    apply ih (TI.add d x) _ (fun y hy => h y (List.mem_cons_of_mem _ hy))
    rw [tier_add, hd, h x List.mem_cons_self, Nat.add_zero, ite_self, ite_self]

/-- a cycle of plain connections is unresolved: its delays sum to zero -/
theorem plain_unresolved (d : TI) (ds : List TI) (hd : d.isZero = true) (h : ∀ x ∈ ds, x.isZero = true) :
    (pathSum d ds).isZero = true := by
  rw [isZero_iff]
  intro j
  exact stays_zero j ds d ((isZero_iff d).mp hd j) (fun x hx => (isZero_iff x).mp (h x hx) j)

/-- a weak step (`w`, non-zero on tier `j` only) followed by plain connections one of which leaves the group (`x`, cutoff at
most `j`) is unresolved: the sum is zero -/
theorem weak_then_leave_unresolved (j : Nat) (w : TI) (mid : List TI) (x : TI) (post : List TI)
    (hw : ∀ i, i ≠ j → tier w.tiers i = 0) (hmid : ∀ y ∈ mid, y.isZero = true) (hx : x.isZero = true)
    (hxc : x.cutoff ≤ j) (hpost : ∀ y ∈ post, y.isZero = true) :
    (pathSum w (mid ++ [x] ++ post)).isZero = true := by
  rw [isZero_iff]
  intro i
  have hsplit : pathSum w (mid ++ [x] ++ post) = pathSum (pathSum w (mid ++ [x])) post := List.foldl_append ..
  rw [hsplit]
  apply stays_zero i post _ _ (fun y hy => (isZero_iff y).mp (hpost y hy) i)
  by_cases hij : i = j
  · subst hij
    rw [leaving_erases i w mid x hxc]
    exact (isZero_iff x).mp hx i
  · apply stays_zero i (mid ++ [x]) w (hw i hij)
    intro y hy
    rcases List.mem_append.mp hy with hy | hy
    · exact (isZero_iff y).mp (hmid y hy) i
    · rw [List.mem_singleton.mp hy]
      exact (isZero_iff x).mp hx i

/-- the cycle named in the error is one whose stored minimal delay is all-zero -/
theorem found_cycle_is_zero (n : Nat) (descs : Descs) (p : List Sid) (h : cycFind n descs = some p) :
    ∃ s d, s < n ∧ descs.get? s s = some (d, p) ∧ d.isZero = true :=
  cycFind_some n descs p h

/-- a scenario is accepted exactly when no simulator reaches itself with an all-zero stored delay -/
theorem accepted_iff (n : Nat) (descs : Descs) :
    cycFind n descs = none ↔ ∀ s, s < n → ∀ d p, descs.get? s s = some (d, p) → d.isZero = false :=
  cycFind_eq_none_iff n descs

/-- no false rejections: for every pop order of the worklist, the cycle named in the ScenarioError is a real cycle of
connections whose accumulated delay is all-zero -/
theorem reject_sound (sims : List SimCfg) (orc : List Nat) (p : List Sid) (h : ensureNoCycles sims orc = .cycle p) :
    ∃ s d, s < sims.length ∧ RealPath sims s s p d ∧ d.isZero = true :=
  Mosaik.reject_sound sims orc p h

/-- no false acceptance: if, for whatever pop order, the worklist empties and the scenario is accepted, then no cycle of
connections has an all-zero accumulated delay -/
theorem accept_complete (sims : List SimCfg) (orc : List Nat) (hS : Shaped sims) (hN : NodupKeys sims) (hU : Uniform sims)
    (h : ensureNoCycles sims orc = .ok) : ∀ s p d, RealPath sims s s p d → d.isZero = false :=
  Mosaik.accept_complete sims orc hS hN hU h

/-- on well-shaped uniform tables no assert of the delay arithmetic fires inside the cycle check -/
theorem no_assertion_uniform (sims : List SimCfg) (orc : List Nat) (hS : Shaped sims) (hU : Uniform sims) :
    ensureNoCycles sims orc ≠ .error .assertion :=
  Mosaik.no_assertion_uniform sims orc hS hU

/-- cycle detection is exact: whenever the check decides (the worklist empties), it rejects exactly the scenarios that
contain a cycle of connections whose accumulated delay is all-zero — for every pop order -/
theorem cycle_check_exact (sims : List SimCfg) (orc : List Nat) (hS : Shaped sims) (hN : NodupKeys sims) (hU : Uniform sims)
    (hdec : ∀ e, ensureNoCycles sims orc ≠ .error e) :
    (∃ p, ensureNoCycles sims orc = .cycle p) ↔ ∃ s p d, RealPath sims s s p d ∧ d.isZero = true :=
  (cycle_check_exact_with sims orc hS hN hU hdec).2

theorem cycle_check_exact_of_fuel (sims : List SimCfg) (orc : List Nat) (hS : Shaped sims) (hN : NodupKeys sims) (hU : Uniform sims)
    (hfuel : ensureNoCycles sims orc ≠ .error .fuel) :
    (∃ p, ensureNoCycles sims orc = .cycle p) ↔ ∃ s p d, RealPath sims s s p d ∧ d.isZero = true := by
  apply cycle_check_exact sims orc hS hN hU
  intro e
  cases e with
  | assertion => exact no_assertion_uniform sims orc hS hU
  | fuel => exact hfuel

/-- the same from the executable checks (evaluated by the driver on every generated graph) -/
theorem exact_of_checks (sims : List SimCfg) (orc : List Nat) (h1 : shapedB sims = true) (h2 : nodupKeysB sims = true)
    (h3 : constCutoffB sims = true) (hfuel : ensureNoCycles sims orc ≠ .error .fuel) :
    (∃ p, ensureNoCycles sims orc = .cycle p) ↔ ∃ s p d, RealPath sims s s p d ∧ d.isZero = true :=
  cycle_check_exact_of_fuel sims orc (shapedB_sound h1) (nodupKeysB_sound h2) (constCutoffB_sound h3) hfuel

/-- … and with the executable check `uniformB` (smallest = largest path cutoff for every pair, on tables checked to be closed;
it implies `Uniform`: `uniformB_sound`) instead of the sufficient `constCutoffB` — this covers the grouped scenarios too -/
theorem exact_of_uniformB (sims : List SimCfg) (orc : List Nat) (h1 : shapedB sims = true) (h2 : nodupKeysB sims = true)
    (h3 : uniformB sims = true) (hfuel : ensureNoCycles sims orc ≠ .error .fuel) :
    (∃ p, ensureNoCycles sims orc = .cycle p) ↔ ∃ s p d, RealPath sims s s p d ∧ d.isZero = true :=
  cycle_check_exact_of_fuel sims orc (shapedB_sound h1) (nodupKeysB_sound h2) (uniformB_sound h3) hfuel

/-- non-vacuity: A and B in one group with a weak back edge, X outside feeding A: cutoffs 2 and 1, uniform, accepted -/
example : let sims : List SimCfg :=
      [ { depth := 2, inputDelays := [(1, ⟨2, 2, [0, 1]⟩), (2, ⟨1, 1, [0, 0]⟩)] }, { depth := 2, inputDelays := [(0, ⟨2, 2, [0, 0]⟩)] }, { depth := 1 } ]
    shapedB sims = true ∧ nodupKeysB sims = true ∧ constCutoffB sims = false ∧ uniformB sims = true ∧ ensureNoCycles sims [] = .ok := by
  decide +kernel

/-- non-vacuity of the completeness direction: A → B plain, B → A time-shifted satisfies the three checks and is accepted -/
example : let sims : List SimCfg := [{ inputDelays := [(1, ⟨1, 1, [1]⟩)] }, { inputDelays := [(0, ⟨1, 1, [0]⟩)] }]
    shapedB sims = true ∧ nodupKeysB sims = true ∧ constCutoffB sims = true ∧ ensureNoCycles sims [] = .ok := by
  decide +kernel

/-- non-vacuity: two simulators feeding each other over plain connections are rejected, and the named cycle is real -/
example : ensureNoCycles [{ inputDelays := [(1, ⟨1, 1, [0]⟩)] }, { inputDelays := [(0, ⟨1, 1, [0]⟩)] }] [] = .cycle [0, 1, 0] := by
  decide +kernel

/-! non-vacuity: A → B plain, B → A weak inside a group: resolved; the same through an outside
simulator X (B → X → A): the weak step is erased, the cycle is unresolved -/
example : (pathSum ⟨2, 2, [0, 0]⟩ [⟨2, 2, [0, 1]⟩]).isZero = false := by decide +kernel
example : (pathSum ⟨2, 2, [0, 1]⟩ [⟨2, 1, [0]⟩, ⟨1, 1, [0, 0]⟩]).isZero = true := by decide +kernel

/-- exactness for every built scenario: the shape and one-entry-per-predecessor hypotheses of `cycle_check_exact` are
consequences of how `connect` builds the tables (`Build.BuiltOk`, by induction over the calls); what remains is `Uniform`
(the complement of finding D7) and that the check decides -/
theorem cycle_check_exact_built (ops : List Build.Op) (hv : Build.Valid {} ops) (orc : List Nat)
    (hU : Uniform (Build.build ops).sims) (hdec : ∀ e, ensureNoCycles (Build.build ops).sims orc ≠ .error e) :
    (∃ p, ensureNoCycles (Build.build ops).sims orc = .cycle p) ↔
      ∃ s p d, RealPath (Build.build ops).sims s s p d ∧ d.isZero = true :=
  cycle_check_exact _ orc (Build.built_shaped (Build.built_ok hv))
    (Build.built_nodupKeys (Build.built_ok hv)) hU hdec

/-- scenarios without groups: all connections then have cutoff 1 and `Uniform` holds outright (`Build.flat_uniform`) -/
theorem cycle_check_exact_flat (ops : List Build.Op) (hv : Build.Valid {} ops) (hf : Build.flatOps ops = true) (orc : List Nat)
    (hdec : ∀ e, ensureNoCycles (Build.build ops).sims orc ≠ .error e) :
    (∃ p, ensureNoCycles (Build.build ops).sims orc = .cycle p) ↔
      ∃ s p d, RealPath (Build.build ops).sims s s p d ∧ d.isZero = true :=
  cycle_check_exact_built ops hv orc
    (Build.flat_uniform (Build.built_ok hv) (Build.flatWorld_of_ops hv hf)) hdec

/-- the cycle check terminates, for every finite oracle of pop indices continued with index 0: on well-shaped tables with
uniform path cutoffs and sources in range the worklist of `ensure_no_dataflow_cycles` empties, without an assertion, from
some amount of fuel on (`no_zero_cycle_of_loop` / `reject_sound_with`, the forms of `accept_complete` / `reject_sound` for
any fuel, then apply).  The proof is a well-founded descent on the table of stored delays (`Closure/Terminate.lean`); on the
fixed fuel of the executable `ensureNoCycles` and on finding D7 see the head of this file. -/
theorem worklist_terminates (sims : List SimCfg) (orc : List Nat) (hS : Shaped sims) (hU : Uniform sims) (hR : SrcRange sims) :
    ∃ k, ∀ fuel, k ≤ fuel → ∃ st, cycLoop sims fuel (cycInit sims) orc = .ok st ∧ st.dirty = [] :=
  cycLoop_ends hS hU hR (depth_le_sum sims) (cycInit sims) (cycInit_real sims) orc

/-- … for every built scenario: shapes and source ranges follow from the builder invariant; `Uniform` remains -/
theorem worklist_terminates_built (ops : List Build.Op) (hv : Build.Valid {} ops) (orc : List Nat)
    (hU : Uniform (Build.build ops).sims) :
    ∃ k, ∀ fuel, k ≤ fuel → ∃ st, cycLoop (Build.build ops).sims fuel (cycInit (Build.build ops).sims) orc = .ok st ∧ st.dirty = [] :=
  worklist_terminates _ orc (Build.built_shaped (Build.built_ok hv)) hU (Build.built_srcRange (Build.built_ok hv))

/-- … and for scenarios without groups no hypothesis is left (`Uniform` holds outright) -/
theorem worklist_terminates_flat (ops : List Build.Op) (hv : Build.Valid {} ops) (hf : Build.flatOps ops = true) (orc : List Nat) :
    ∃ k, ∀ fuel, k ≤ fuel → ∃ st, cycLoop (Build.build ops).sims fuel (cycInit (Build.build ops).sims) orc = .ok st ∧ st.dirty = [] :=
  worklist_terminates_built ops hv orc
    (Build.flat_uniform (Build.built_ok hv) (Build.flatWorld_of_ops hv hf))

/-- total and exact, for every such oracle: with enough fuel (the real algorithm has none) the cycle check answers — it neither
dies with an assertion nor runs on — and it rejects exactly the scenarios that contain a cycle of connections whose accumulated
delay is all-zero -/
theorem cycle_check_total_exact (sims : List SimCfg) (orc : List Nat) (hS : Shaped sims) (hN : NodupKeys sims) (hU : Uniform sims)
    (hR : SrcRange sims) :
    ∃ k, ∀ fuel, k ≤ fuel →
      (ensureNoCyclesWith fuel sims orc = .ok ∨ ∃ p, ensureNoCyclesWith fuel sims orc = .cycle p) ∧
      ((∃ p, ensureNoCyclesWith fuel sims orc = .cycle p) ↔ ∃ s p d, RealPath sims s s p d ∧ d.isZero = true) :=
  Mosaik.cycle_check_total_exact sims orc hS hN hU hR

/-- … for every scenario without groups built by valid calls no hypothesis is left -/
theorem cycle_check_total_exact_flat (ops : List Build.Op) (hv : Build.Valid {} ops) (hf : Build.flatOps ops = true) (orc : List Nat) :
    ∃ k, ∀ fuel, k ≤ fuel →
      (ensureNoCyclesWith fuel (Build.build ops).sims orc = .ok ∨ ∃ p, ensureNoCyclesWith fuel (Build.build ops).sims orc = .cycle p) ∧
      ((∃ p, ensureNoCyclesWith fuel (Build.build ops).sims orc = .cycle p) ↔
        ∃ s p d, RealPath (Build.build ops).sims s s p d ∧ d.isZero = true) :=
  have hb := Build.built_ok hv
  cycle_check_total_exact _ orc (Build.built_shaped hb) (Build.built_nodupKeys hb)
    (Build.flat_uniform hb (Build.flatWorld_of_ops hv hf)) (Build.built_srcRange hb)

/-- … and with groups: `Uniform` (implied by the executable check `uniformB`) is the one hypothesis -/
theorem cycle_check_total_exact_built (ops : List Build.Op) (hv : Build.Valid {} ops) (orc : List Nat)
    (hU : Uniform (Build.build ops).sims) :
    ∃ k, ∀ fuel, k ≤ fuel →
      (ensureNoCyclesWith fuel (Build.build ops).sims orc = .ok ∨ ∃ p, ensureNoCyclesWith fuel (Build.build ops).sims orc = .cycle p) ∧
      ((∃ p, ensureNoCyclesWith fuel (Build.build ops).sims orc = .cycle p) ↔
        ∃ s p d, RealPath (Build.build ops).sims s s p d ∧ d.isZero = true) :=
  have hb := Build.built_ok hv
  cycle_check_total_exact _ orc (Build.built_shaped hb) (Build.built_nodupKeys hb) hU (Build.built_srcRange hb)

end Mosaik.C06
