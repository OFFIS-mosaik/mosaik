/-
C16  Asynchronous requests (set_data / get_data).

* admission : `refused_iff`, `asyncAllowed_iff`, `connect_registers_async`
* set_data  : `stored`; `delivered_in_next_step`, `delivered_once` (`stepInputs` of the target, for any state and step time,
              holds the values — they take precedence over remembered values — and `getInputData` clears them);
              `delivered_after_t`
* ordering  : `order`
* get_data  : `get_data_*`, the data path of an accepted request (`MosaikRemote.get_data`)
-/
import MosaikProofs.Properties.C03
import MosaikProofs.Properties.C01
import MosaikProofs.Sched.AsyncGet
namespace Mosaik.C16
open Mosaik

/-- requests are refused exactly without the connection -/
theorem refused_iff (cfg : Cfg) (s : State) (p target : Sid) (es : InputData)
    (hf : s.failed = none) (hp : p < cfg.n) (hpc : (s.sims p).pc = .inStep) :
    (∃ s', step cfg s (.setData p target es) = some s' ∧
        (s'.failed = some (.asyncRefused p) ↔ asyncAllowed cfg p target = false)) ∧
    (∃ s', step cfg s (.getDataReq p target) = some s' ∧
        (s'.failed = some (.asyncRefused p) ↔ asyncAllowed cfg p target = false)) := by
  cases ha : asyncAllowed cfg p target with
  | true =>
    refine ⟨⟨s.upd target fun x => { x with setData := es.foldl (fun acc e => InputData.set acc e.1 e.2) x.setData }, ?_, ?_⟩,
      ⟨s, ?_, ?_⟩⟩
    · exact (Fires.setData p target es hf hp hpc ha).step
    · simp [hf]
    · exact (Fires.getData p target hf hp hpc ha).step
    · simp [hf]
  | false =>
    refine ⟨⟨s.fail (.asyncRefused p), ?_, ?_⟩, ⟨s.fail (.asyncRefused p), ?_, ?_⟩⟩
    · exact (Fires.setDataRefused p target es hf hp hpc ha).step
    · simp [State.fail_eq _ _ hf]
    · exact (Fires.getDataRefused p target hf hp hpc ha).step
    · simp [State.fail_eq _ _ hf]

/-- `asyncAllowed` is exactly "an async connection target → p was made" -/
theorem asyncAllowed_iff (cfg : Cfg) (p target : Sid) :
    asyncAllowed cfg p target = true ↔
      (∃ d, (p, d) ∈ (cfg.sim target).succs) ∧ (∃ d, (p, d) ∈ (cfg.sim target).succsWait) := by
  unfold asyncAllowed
  simp only [Bool.and_eq_true, List.any_eq_true, beq_iff_eq]
  constructor
  · rintro ⟨⟨x, hx, rfl⟩, ⟨y, hy, hxy⟩⟩
    exact ⟨⟨x.2, hx⟩, ⟨y.2, by rw [← hxy]; exact hy⟩⟩
  · rintro ⟨⟨d, hd⟩, ⟨d', hd'⟩⟩
    exact ⟨⟨(p, d), hd, rfl⟩, ⟨(p, d'), hd', rfl⟩⟩

/-- the values of one set_data call, written into the pending inputs in order -/
def written (pending entries : InputData) : InputData :=
  entries.foldl (fun acc e => InputData.set acc e.1 e.2) pending

theorem written_last (entries : InputData) (pending : InputData) (k : InKey) (v : Val) (pre rest : InputData)
    (hsplit : entries = pre ++ (k, v) :: rest) (hrest : ∀ e ∈ rest, e.1 ≠ k) :
    InputData.get? (written pending entries) k = some v := by
  subst hsplit
  exact assocGet_foldl_put_last Prod.fst Prod.snd pre (k, v) rest pending hrest

/-- an accepted set_data call stores its values with the target -/
theorem stored (cfg : Cfg) (s s' : State) (p target : Sid) (es : InputData)
    (h : step cfg s (.setData p target es) = some s') (hnf : s'.failed = none) :
    (s'.sims target).setData = written (s.sims target).setData es ∧
    ∀ q, q ≠ target → s'.sims q = s.sims q := by
  cases step_fires h with
  | setDataRefused => exact absurd hnf (State.fail_ne_none _ _)
  | setData => exact ⟨by rw [State.upd_same]; rfl, fun q hq => State.upd_other _ _ hq⟩

/-- … `stepInputs` of the target holds them, whatever it remembered, under keys that no due buffer entry and no cached
connection carries -/
theorem delivered_in_next_step (cfg : Cfg) (s : State) (A : Sid) (c : TT) (k : InKey) (v : Val)
    (hk : InputData.get? (s.sims A).setData k = some v)
    (hbuf : ∀ e ∈ (s.sims A).buffer, e.time ≤ TT.time c → e.key ≠ k)
    (hpull : ∀ e ∈ (cfg.sim A).pulled, ({ eid := e.2.2.2.1, attr := e.2.2.2.2, ssid := e.1, seid := e.2.2.1.1 } : InKey) ≠ k) :
    InputData.get? (stepInputs cfg s A c) k = some v := by
  unfold stepInputs pullInputs
  simp only
  refine (assocGet_foldl_put_other
    (fun e : Sid × TI × Port × Port => ({ eid := e.2.2.2.1, attr := e.2.2.2.2, ssid := e.1, seid := e.2.2.1.1 } : InKey)) _ _ _ k hpull).trans ?_
  exact (C03.undue_not_delivered _ _ _ _ hbuf).trans (C03.set_data_wins _ _ _ _ hk)

/-- … and `getInputData` clears them -/
theorem delivered_once (cfg : Cfg) (s : State) (A : Sid) (c : TT) :
    ((getInputData cfg s A c).2.sims A).setData = [] :=
  (C03.begin_consumes_inputs cfg s A c).2.1

/-- A does not run ahead of its agents: when A begins `t`, every simulator B with an async connection A → B has progressed to `t`
(adapted); in particular a step of B in flight is not earlier than `t`, so while B's step at `tb` is in flight A begins no step
later than `tb` -/
theorem order {cfg : Cfg} (hw : WFCfg cfg) {s s' : State} {A : Sid} (hr : Reach cfg s)
    (h : step cfg s (.deps A) = some s') (hnf : s'.failed = none) :
    ∃ t, (s'.sims A).cur = some t ∧ ∀ bd ∈ (cfg.sim A).succsWait, bd.1 < cfg.n →
      TI.act t bd.2 ≤ (s.sims bd.1).progress ∧
      (∀ tb, (s.sims bd.1).cur = some tb → TI.act t bd.2 ≤ tb) := by
  obtain ⟨t, hready, _, hcur⟩ := deps_begins hw (reach_good hw hr) h hnf
  obtain ⟨hc, _⟩ := reach_good hw hr (step_fires h).not_failed
  refine ⟨t, hcur, fun bd hbd hbn => ?_⟩
  have h1 := (depsReady_iff.mp hready.deps).2.1 bd hbd
  exact ⟨h1, fun tb htb => by rw [← (hc bd.1 hbn).cur_eq tb htb]; exact h1⟩

/-- "In A's first step after t": once the agent `B` has begun its step at `tb`, every step the controller `A` (which feeds
`B`: `A ∈ input_delays(B)`) begins later in the run, under any interleaving, lies after `tb` when delayed by the pair's input
delay `qd.2`.  This is `C01.causal_run` verbatim.  That `qd.2` is all-zero for an async connection is not stated (no field of
`WFCfg`; `connect_registers_async` covers `succs` / `succsWait` only), nor is the composition with
`delivered_in_next_step` / `delivered_once`; a table in which the async registration did not lower the pair's input delay —
the seeded change C16-async-delay-setdefault-shifted — violates the correspondence, not `WFCfg`. -/
theorem delivered_after_t {cfg : Cfg} (hw : WFCfg cfg) (as : List Action) {s s' : State} (hr : Reach cfg s)
    (he : exec cfg s as = some s') (hnf : s'.failed = none) {B : Sid} (hB : B < cfg.n) {tb : TT} (htb : tb ∈ (s.sims B).begun)
    {qd : Sid × TI} (hqd : qd ∈ (cfg.sim B).inputDelays) :
    ∀ c ∈ (s'.sims qd.1).begun, c ∉ (s.sims qd.1).begun → tb < TI.act c qd.2 :=
  C01.causal_run hw as hr he hnf hB htb hqd

/-- "With async_requests enabled from A to B" is what `connect` makes of it: after `world.connect(a, b, …, async_requests=True)`
between entities of started simulators - whether or not one of its attribute pairs was rejected - B is in A's `successors` and
`successors_to_wait_for`, the two tables `asyncAllowed` reads (`asyncAllowed_iff`) -/
theorem connect_registers_async (w : World) (c : ConnectCall) (hs : c.src < w.sims.length) (hd : c.dst < w.sims.length)
    (hasync : c.asyncReq = true) :
    (∃ d, (c.dst, d) ∈ ((w.connect c).1.sim c.src).succs) ∧ (∃ d, (c.dst, d) ∈ ((w.connect c).1.sim c.src).succsWait) := by
  rw [Build.connect_eq]
  simp only [hasync, if_true]
  have hlen := (Build.foldPairs_frame c c.pairs (w, none)).2
  exact Build.connectAsync_registers _ (hlen ▸ hs) (hlen ▸ hd)

/-! The property's statement is about `set_data` delivery, ordering and admission; what an accepted `get_data` *returns* is glue the
model covers as well: `asyncSlice` / `asyncFound` / `asyncMissing` / `asyncAnswer`, compared with `MosaikRemote.get_data` on every
generated request by the driver command `aget`. -/

/-- every requested attribute is answered from the cache slice or forwarded to the other simulator, never both -/
theorem get_data_found_or_forwarded (cfg : Cfg) (s : State) (p target : Sid) (req : List Port) (r : Port) (hr : r ∈ req) :
    (∃ v, OutData.get? (asyncFound cfg s p target req) r = some v ∧ r ∉ asyncMissing cfg s p target req) ∨
    (OutData.get? (asyncFound cfg s p target req) r = none ∧ r ∈ asyncMissing cfg s p target req) :=
  found_or_missing cfg s p target req r hr

/-- a value found in the cache is handed to the requester whatever else the same entity has to be asked for — unless the other
simulator's reply mentions the very attribute -/
theorem get_data_cached_value_kept (cfg : Cfg) (s : State) (p target : Sid) (req : List Port) (direct : OutData) (r : Port) (v : Val)
    (hr : r ∈ req) (hv : OutData.get? (asyncSlice cfg s p target) r = some v) (hd : ∀ e ∈ direct, e.1 ≠ r) :
    OutData.get? (asyncAnswer cfg s p target req direct) r = some v := by
  rw [asyncAnswer_found_kept cfg s p target req direct r hd, get?_asyncFound]
  simp [hr, hv]

/-- what the other simulator answers for a forwarded attribute is handed on -/
theorem get_data_forwarded_value (cfg : Cfg) (s : State) (p target : Sid) (req : List Port) (pre rest : OutData) (e : Port × Val)
    (hm : asyncMissing cfg s p target req ≠ []) (hrest : ∀ f ∈ rest, f.1 ≠ e.1) :
    OutData.get? (asyncAnswer cfg s p target req (pre ++ e :: rest)) e.1 = some e.2 :=
  asyncAnswer_direct cfg s p target req pre rest e hm hrest

/-- `cache=False`: the whole request is forwarded -/
theorem get_data_nocache (cfg : Cfg) (s : State) (p target : Sid) (req : List Port) (hc : cfg.useCache = false) :
    asyncFound cfg s p target req = [] ∧ asyncMissing cfg s p target req = req :=
  asyncMissing_nocache cfg s p target req hc

/-- `cache=True`, any run whose output times do not go back: the slice read is the entry of the other simulator's never-pruned
output history that is newest at or before the lookup time — the time of the requester's running step (`get_data_at_step_time`):
`MosaikRemote.get_data` reads at `max(last_step.time, current_step.time)`, `last_step` alone being the step before the running
one (D23) -/
theorem get_data_reads_history {cfg : Cfg} (hw : WFCfg cfg) (hc : cfg.useCache = true) (hi : InitSorted cfg) {s : State}
    (hr : ReachM cfg s) (hnf : s.failed = none) {p target : Sid} (hp : p < cfg.n) (ht : target < cfg.n) :
    asyncSlice cfg s p target = getOutputFor (histOf cfg target s.log) (asyncLookupTime s p) :=
  asyncSlice_history hw hc hi hr hnf hp ht

/-- in every reachable state a simulator that is inside a step reads the cache at the time of that step -/
theorem get_data_at_step_time {cfg : Cfg} (hw : WFCfg cfg) {s : State} (hr : Reach cfg s) (hnf : s.failed = none) {p : Sid}
    (hp : p < cfg.n) {c : TT} (hcur : (s.sims p).cur = some c) : asyncLookupTime s p = (TT.time c : Int) := by
  have hlast := reach_lastTime_le hw hr hnf hp
  rw [((reach_good hw hr hnf).1 p hp).cur_eq c hcur] at hlast
  exact asyncLookupTime_cur s p c hcur hlast

/-- non-vacuity: a request for a cached and an uncached attribute of one entity; the other simulator answers the uncached one -/
example :
    let cfg : Cfg := { sims := [{ outputs0 := [(0, [((0, 2), some 7)])] }, {}], useCache := true }
    let s := initState cfg
    let s1 := s.upd 1 fun x => { x with last := some [0], cur := some [0] }
    asyncMissing cfg s1 1 0 [(0, 2), (0, 3)] = [(0, 3)] ∧
    asyncAnswer cfg s1 1 0 [(0, 2), (0, 3)] [((0, 3), some 9)] = [((0, 2), some 7), ((0, 3), some 9)] := by
  decide +kernel

end Mosaik.C16
