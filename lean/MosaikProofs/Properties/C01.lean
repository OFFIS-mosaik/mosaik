/-
C01  Causal input readiness (conservative synchronisation).

For every configuration satisfying `WFCfg` (checked on every generated scenario, see WF.lean),
every behaviour of the simulators and every interleaving (= every sequence of enabled actions of the
transition system of MosaikModel/Sched.lean), with lazy stepping and the cache on or off.
`d` is the tiered delay of the connection (time shift, weak sub-step, group boundary), `<` the tiered
order, so all connection kinds are covered at once.
-/
import MosaikProofs.Sched.WF
import MosaikProofs.Build.RunConfig
namespace Mosaik.C01
open Mosaik

/-- State form.  If consumer `C` has begun a step `t` and `P` feeds `C` with delay `d`, then `P`'s progress, its step in
flight and every step still scheduled for it have a delayed output time after `t`: no step of `P` whose output is due at or
before `t` is running or still to come. -/
theorem causal_state {cfg : Cfg} (hw : WFCfg cfg) {s : State} (hr : Reach cfg s) (hnf : s.failed = none)
    {C : Sid} (hC : C < cfg.n) {t : TT} (ht : t ∈ (s.sims C).begun)
    {qd : Sid × TI} (hqd : qd ∈ (cfg.sim C).inputDelays) (hP : qd.1 < cfg.n) :
    t < TI.act (s.sims qd.1).progress qd.2 ∧
    (∀ c, (s.sims qd.1).cur = some c → t < TI.act c qd.2) ∧
    (∀ x ∈ (s.sims qd.1).next, t < TI.act x qd.2) := by
  obtain ⟨hc, _⟩ := reach_good hw hr hnf
  have h1 := (hc C hC).inputs t ht qd hqd
  refine ⟨h1, ?_, ?_⟩
  · intro c hcur
    rw [← (hc qd.1 hP).cur_eq c hcur]; exact h1
  · intro x hx
    exact TT.lt_of_lt_of_le h1 (TI.act_mono_left _ ((hc qd.1 hP).le_next x hx))

/-- Begin form.  A step of `C` begins (`deps C` fires) only at a time `c` such that every provider's
progress, delayed, has passed `c`. -/
theorem causal_begin {cfg : Cfg} (hw : WFCfg cfg) {s s' : State} (hr : Reach cfg s) {C : Sid}
    (h : step cfg s (.deps C) = some s') (hnf : s'.failed = none) :
    ∃ c, (s'.sims C).cur = some c ∧ (s'.sims C).begun = c :: (s.sims C).begun ∧
      ∀ qd ∈ (cfg.sim C).inputDelays, c < TI.act (s.sims qd.1).progress qd.2 := by
  obtain ⟨c, hready, hbeg, hcur⟩ := deps_begins hw (reach_good hw hr) h hnf
  exact ⟨c, hcur, hbeg, (depsReady_iff.mp hready.deps).1⟩

/-- Run form (the statement of the property).  Once consumer `C` has begun a step at `t`, no
simulator `P` feeding it is ever (later in the run, under any interleaving) stepped at a time `c`
whose delayed output time `c + d` is at or before `t`. -/
theorem causal_run {cfg : Cfg} (hw : WFCfg cfg) : ∀ (as : List Action) {s s' : State}, Reach cfg s →
    exec cfg s as = some s' → s'.failed = none →
    ∀ {C : Sid}, C < cfg.n → ∀ {t : TT}, t ∈ (s.sims C).begun →
    ∀ {qd : Sid × TI}, qd ∈ (cfg.sim C).inputDelays →
    ∀ c ∈ (s'.sims qd.1).begun, c ∉ (s.sims qd.1).begun → t < TI.act c qd.2 := by
  intro as s s' hr h hnf C hC t ht qd hqd c hc hnc
  refine exec_ind (P := fun s _ s' => Reach cfg s → s'.failed = none → t ∈ (s.sims C).begun → c ∈ (s'.sims qd.1).begun →
    c ∉ (s.sims qd.1).begun → t < TI.act c qd.2) (fun _ _ _ _ hc hnc => absurd hc hnc) ?_ as h hr hnf ht hc hnc
  intro s s1 s' a as hs h ih hr hnf ht hc hnc
  have hnf1 := exec_not_failed h hnf
  obtain ⟨hcore, _⟩ := reach_good hw hr (step_fires hs).not_failed
  by_cases hc1 : c ∈ (s1.sims qd.1).begun
  · -- the step c began with this very action
    rcases begun_sources hw hr hs hnf1 qd.1 c hc1 with h0 | hready
    · exact absurd h0 hnc
    · rw [← hready.progress]
      exact (hcore C hC).inputs t ht qd hqd
  · exact ih (Reach.step hr hs) hnf ((step_mono hw hr hs hnf1).2 C t ht) hc hc1

/-! non-vacuity: the hypotheses are satisfiable — a two-simulator configuration A → B with a
trigger connection satisfies the executable check behind `WFCfg`, and a run exists in which both
step. -/
def exCfg : Cfg :=
  { sims := [ { ty := .timeBased, next0 := [[0]], triggers := [((0, 0), 1, ⟨1, 1, [0]⟩)], outReq := [(0, 0)],
                succs := [(1, ⟨1, 1, [0]⟩)], push := [((0, 0), 1, ⟨1, 1, [0]⟩, (0, 0))] },
              { ty := .eventBased, inputDelays := [(0, ⟨1, 1, [0]⟩)], trigAnc := [(0, ⟨1, 1, [0]⟩)] } ],
    until_ := 2, lazy_ := false, useCache := false }

example : exCfg.wfB = true := by decide +kernel

/-- a run of that configuration in which A steps at 0 and B, triggered by A's output, steps at 0 after it -/
def exRun : List Action :=
  [.start 0, .start 1, .deps 0, .stepReply 0 (.int 1), .dataReply 0 { data := [((0, 0), some 7)] }, .wake 1, .deps 1]

example : ((exec exCfg (initState exCfg) exRun).map fun s => (s.failed.isNone, (s.sims 0).begun, (s.sims 1).begun))
    = some (true, [[0]], [[0]]) := by decide +kernel

/-- `causal_run` without the `WFCfg` hypothesis: the configuration is the one `World.run` derives
(`cache_triggering_ancestors`) from a scenario built by any valid sequence of `start` / `connect` / `set_initial_event` calls
(`UniformT`: all trigger paths between two simulators have one cutoff, the complement of finding D7). -/
theorem causal_run_built {ops : List Build.Op} (hv : Build.Valid {} ops) (hU : UniformT (Build.build ops).sims)
    {orc : List Nat} {out : List SimCfg} (hc : cacheTriggeringAncestors (Build.build ops).sims orc = .ok out)
    (until_ maxLoop : Nat) (lazy_ useCache strict : Bool) (as : List Action) {s s' : State}
    (hr : Reach (Build.runCfg out until_ maxLoop lazy_ useCache strict) s)
    (he : exec (Build.runCfg out until_ maxLoop lazy_ useCache strict) s as = some s') (hnf : s'.failed = none)
    {C : Sid} (hC : C < (Build.runCfg out until_ maxLoop lazy_ useCache strict).n) {t : TT} (ht : t ∈ (s.sims C).begun)
    {qd : Sid × TI} (hqd : qd ∈ ((Build.runCfg out until_ maxLoop lazy_ useCache strict).sim C).inputDelays)
    (c : TT) (hc1 : c ∈ (s'.sims qd.1).begun) (hc2 : c ∉ (s.sims qd.1).begun) : t < TI.act c qd.2 :=
  causal_run (Build.run_config_wf hv hU hc until_ maxLoop lazy_ useCache strict) as hr he hnf hC ht hqd c hc1 hc2

/-- non-vacuity: a built scenario (A time-based, B hybrid, A.2 → B.1 a trigger connection; `Build.Valid` is not stated): its
ancestor table is computed, and its run configuration passes the executable form of `WFCfg` -/
def exOps : List Build.Op :=
  [ .start { ty := .timeBased, group := [], cls := (parseAttrs { anyInputs := false, attrs := some [0, 1, 2, 3] } .timeBased).getD default },
    .start { ty := .hybrid, group := [], cls := (parseAttrs { anyInputs := false, attrs := some [0, 1, 2, 3], trigger := some [1], nonPersistent := some [3] } .hybrid).getD default },
    .connect { src := 0, seid := 0, dst := 1, deid := 0, pairs := [(2, 1)] } ]

example : (Build.build exOps).sims.length = 2 ∧ ((Build.build exOps).sim 0).triggers.length = 1 ∧
    ((cacheTriggeringAncestors (Build.build exOps).sims []).toOption.map fun out => (Build.runCfg out 3 100 true true false).wfB) = some true := by
  decide +kernel

/-- the scenario has no groups (`flatOps`, the hypothesis of the `…_flat` theorems of C05 and C06) -/
example : Build.flatOps exOps = true := by decide +kernel

end Mosaik.C01
