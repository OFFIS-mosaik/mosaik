/-
C15  API version adaptation.

Decision logic of `init_and_get_adapter` / `LocalProxy.init` / the two adapters, stated outright,
for every version (list of naturals of any length), every explicit version, local and remote.
Python's list comparison is the lexicographic order `<` of `List Nat`.
-/
import MosaikModel.Adapters
namespace Mosaik.C15
open Mosaik.Adapters

/-- a simulator is rejected at start exactly in the three documented cases -/
theorem start_none_iff (i : StartIn) :
    start i = none ↔
      (i.isLocal = true ∧ compliant i = false ∧ extractVersion i.reported ≥ [3]) ∨
      extractVersion i.reported ≥ [4] ∨
      (∃ e, i.explicit = some e ∧ extractVersion i.reported ≠ e) := by
  have h3 : rejectMismatch i = true ↔ ∃ e, i.explicit = some e ∧ extractVersion i.reported ≠ e := by
    unfold rejectMismatch
    cases i.explicit <;> simp
  simp only [start, rejectForcedOld, rejectTooNew, ite_eq_left_iff, reduceCtorEq, imp_false, Decidable.not_not,
    Bool.or_eq_true, Bool.and_eq_true, Bool.not_eq_true', decide_eq_true_eq, h3, and_assoc, or_assoc]

/-- versions ≥ 4 are rejected -/
theorem reject_too_new (i : StartIn) (h : extractVersion i.reported ≥ [4]) : start i = none :=
  (start_none_iff i).mpr (Or.inr (Or.inl h))

/-- a version different from the configured `api_version` is rejected (also a different spelling
such as "3.0" vs "3": the lists differ) -/
theorem reject_explicit_mismatch (i : StartIn) (e : Version) (h1 : i.explicit = some e)
    (h2 : extractVersion i.reported ≠ e) : start i = none :=
  (start_none_iff i).mpr (Or.inr (Or.inr ⟨e, h1, h2⟩))

/-- an in-process simulator claiming v3 without the v3 signatures is rejected -/
theorem reject_forced_old (i : StartIn) (h1 : i.isLocal = true) (h2 : compliant i = false)
    (h3 : extractVersion i.reported ≥ [3]) : start i = none :=
  (start_none_iff i).mpr (Or.inl ⟨h1, h2, h3⟩)

/-- the two adapters of an accepted simulator are determined by its version; `time_resolution` is sent unless it is an
in-process simulator without the v3 signatures -/
theorem adapters_of_start {i : StartIn} {s : Started} (h : start i = some s) :
    s.v2ToV1 = decide (extractVersion i.reported < [2, 2]) ∧
    s.v3ToV2 = decide (extractVersion i.reported < [3]) ∧
    s.timeResSent = !(i.isLocal && !compliant i) := by
  unfold start at h
  split at h
  · cases h
  · cases h; simp

/-- `step` through the adapters: `V3ToV2Adapter` keeps its first two arguments (`args[0:2]`) -/
theorem rewrite_step (s : Started) (n : Nat) :
    rewrite s (.step n) = some (.step (if s.v3ToV2 then min n 2 else n)) := by
  unfold rewrite
  cases s.v3ToV2 <;> cases s.v2ToV1 <;> rfl

/-- `setup_done` through the adapters: `V2ToV1Adapter` returns `None` without sending it -/
theorem rewrite_setupDone (s : Started) :
    rewrite s .setupDone = if s.v2ToV1 then none else some .setupDone := by
  unfold rewrite
  cases s.v3ToV2 <;> cases s.v2ToV1 <;> rfl

/-- requests other than `step` and `setup_done` are never rewritten, whatever the version -/
theorem other_requests_unchanged (s : Started) : rewrite s .getData = some .getData ∧ rewrite s .other = some .other := by
  unfold rewrite
  cases s.v3ToV2 <;> cases s.v2ToV1 <;> exact ⟨rfl, rfl⟩

/-- before v3: `step` is sent with exactly two positional arguments (no `max_advance`) -/
theorem old_step_has_two_args {i : StartIn} {s : Started} (h : start i = some s)
    (hv : extractVersion i.reported < [3]) (n : Nat) (hn : 2 ≤ n) :
    ∃ r, rewrite s (.step n) = some r ∧ r = .step 2 := by
  rw [rewrite_step, (adapters_of_start h).2.1, decide_eq_true hv, if_pos rfl, Nat.min_eq_right hn]
  exact ⟨_, rfl, rfl⟩

/-- before v3: a missing simulator type is defaulted to time-based -/
theorem old_type_defaulted {i : StartIn} {s : Started} (h : start i = some s)
    (hv : extractVersion i.reported < [3]) : metaType s none = some 0 := by
  rw [metaType, (adapters_of_start h).2.1, decide_eq_true hv]
  rfl

/-- a reported type is never overwritten -/
theorem type_kept (s : Started) (t : Nat) : metaType s (some t) = some t := rfl

/-- before v2.2: `setup_done` never reaches the simulator -/
theorem old_no_setup_done {i : StartIn} {s : Started} (h : start i = some s)
    (hv : extractVersion i.reported < [2, 2]) : rewrite s .setupDone = none := by
  rw [rewrite_setupDone, (adapters_of_start h).1, decide_eq_true hv]
  rfl

/-- from v2.2 on `setup_done` is sent -/
theorem setup_done_sent {i : StartIn} {s : Started} (h : start i = some s)
    (hv : ¬ extractVersion i.reported < [2, 2]) : rewrite s .setupDone = some .setupDone := by
  rw [rewrite_setupDone, (adapters_of_start h).1, decide_eq_false hv]
  rfl

/-- a current-version simulator sees every request unchanged (so its scheduling and data are
those of the scheduler model) -/
theorem current_unchanged {i : StartIn} {s : Started} (h : start i = some s)
    (hv : ¬ extractVersion i.reported < [3]) (r : Req) : rewrite s r = some r := by
  have h3 : s.v3ToV2 = false := (adapters_of_start h).2.1.trans (decide_eq_false hv)
  have h4 : s.v2ToV1 = false :=
    (adapters_of_start h).1.trans (decide_eq_false fun hlt => hv (List.lt_trans hlt (by decide)))
  simp [rewrite, h3, h4]

/-- no `time_resolution` for an in-process simulator whose signatures are not v3; always for a
remote one -/
theorem time_resolution_sent {i : StartIn} {s : Started} (h : start i = some s) :
    s.timeResSent = (!i.isLocal || compliant i) := by
  rw [(adapters_of_start h).2.2]
  cases i.isLocal <;> cases compliant i <;> rfl

/-- a missing "api_version" means version 1 -/
theorem missing_version : extractVersion none = [1] := rfl

example : start { reported := some [2, 1], explicit := none, isLocal := false, hasTimeRes := true, hasMaxAdv := true }
    = some { v2ToV1 := true, v3ToV2 := true, timeResSent := true, warnOutdated := true } := by decide +kernel
example : start { reported := some [3, 0], explicit := some [3], isLocal := true, hasTimeRes := true, hasMaxAdv := true } = none := by decide +kernel
example : ([2, 10] : List Nat) ≥ [2, 2] ∧ ([3] : List Nat) < [3, 0] ∧ ¬ ([3, 0, 1] : List Nat) ≥ [4] := by decide +kernel

/-- an explicitly reported simulator type is respected whatever the version; only a missing one is defaulted -/
theorem explicit_type_respected (s : Adapters.Started) (t : Nat) : Adapters.metaType s (some t) = some t :=
  type_kept s t

end Mosaik.C15
