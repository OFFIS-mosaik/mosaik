/-
C18  Bulk connection helpers distribute connections as documented.

For every oracle (= every outcome of `random.shuffle` / `random.randint`), every size:
* `many_to_one` : every source is connected exactly once, to the single destination
* `evenly`      : every source exactly once, in order; only destinations of `dest_set`; the numbers of connections per
                  destination differ by at most one; returned set = destinations that received a connection
* `randomly`, `randomly_unbounded` : every source exactly once; no destination exceeds `max_connects`; returned set as above;
                  never fails when `len(src) ≤ len(dest) * max_connects`
-/
import MosaikModel.Util
namespace Mosaik.C18
open Mosaik.Util

theorem many_to_one (srcs : List Nat) (d : Nat) :
    (connectManyToOne srcs d).map (·.1) = srcs ∧ ∀ p ∈ connectManyToOne srcs d, p.2 = d := by
  constructor
  · simp [connectManyToOne, Function.comp_def]
  · intro p hp
    simp only [connectManyToOne, List.mem_map] at hp
    obtain ⟨s, _, rfl⟩ := hp
    rfl

/-! ### random.shuffle returns a permutation -/

theorem swap_length (l : List Nat) (i j : Nat) : (swap l i j).length = l.length := by
  simp only [swap, List.length_set]

theorem swap_perm (l : List Nat) (i j : Nat) (hi : i < l.length) (hj : j < l.length) :
    (swap l i j).Perm l := by
  simp only [swap, List.getD_eq_getElem?_getD, List.getElem?_eq_getElem hi, List.getElem?_eq_getElem hj,
    Option.getD_some]
  exact List.set_set_perm hi hj

theorem shuffleFrom_perm (k : Nat) : ∀ (l orc : List Nat), k ≤ l.length - 1 → (shuffleFrom k l orc).1.Perm l := by
  induction k with
  | zero => exact fun l _ _ => .refl l
  | succ k ih =>
    intro l orc h
    have hk : k + 1 < l.length := Nat.add_lt_of_lt_sub h
    have hj : orc.headD 0 % (k + 2) < l.length := Nat.lt_of_lt_of_le (Nat.mod_lt _ (Nat.succ_pos _)) hk
    exact (ih _ orc.tail (by rw [swap_length]; exact Nat.le_of_succ_le h)).trans (swap_perm l _ _ hk hj)

theorem shuffle_perm (l orc : List Nat) : (shuffle l orc).1.Perm l :=
  shuffleFrom_perm _ l orc (Nat.le_refl _)

/-- what one call of the loop guarantees, for every current destination list `ds` -/
structure EvenSpec (srcs ds : List Nat) (r : List (Nat × Nat) × List Nat) : Prop where
  sources : r.1.map (·.1) = srcs
  returned : r.2 = r.1.map (·.2)
  inDests : ∀ d ∈ r.2, d ∈ ds
  balanced : ∃ q, ∀ d ∈ ds, q ≤ r.2.count d ∧ r.2.count d ≤ q + 1

theorem connectEvenlyLoop_nil (fuel : Nat) (ds orc : List Nat) : connectEvenlyLoop fuel [] ds orc = ([], []) := by
  cases fuel <;> rfl

/-- one round unfolded; `zip` truncates by itself, so the `min` of the model is not needed -/
theorem connectEvenlyLoop_succ {srcs : List Nat} (hs : srcs ≠ []) (fuel : Nat) (ds orc : List Nat) :
    connectEvenlyLoop (fuel + 1) srcs ds orc =
      let sh := shuffle ds orc
      let rest := connectEvenlyLoop fuel (srcs.drop sh.1.length) sh.1 sh.2
      (srcs.zip sh.1 ++ rest.1, sh.1.take srcs.length ++ rest.2) := by
  have : srcs.isEmpty = false := by simpa using hs
  simp only [connectEvenlyLoop, this, Bool.false_eq_true, if_false, ← List.zip_eq_zip_take_min]
  rw [← List.take_eq_take_min]

theorem EvenSpec.nil (ds : List Nat) : EvenSpec [] ds ([], []) :=
  { sources := rfl, returned := rfl, inDests := fun _ h => nomatch h
    balanced := ⟨0, fun _ _ => ⟨Nat.le_refl _, Nat.zero_le _⟩⟩ }

/-- one round in front of rounds that meet the specification: a full round gives every destination one more,
a partial round is the last one and gives every destination at most one -/
theorem EvenSpec.round {srcs ds ds' : List Nat} {rest : List (Nat × Nat) × List Nat} (hperm : ds'.Perm ds)
    (hnd : ds'.Nodup) (ih : EvenSpec (srcs.drop ds'.length) ds' rest) :
    EvenSpec srcs ds (srcs.zip ds' ++ rest.1, ds'.take srcs.length ++ rest.2) := by
  obtain ⟨q, hq⟩ := ih.balanced
  have hzip : srcs.zip ds' = (srcs.take ds'.length).zip (ds'.take srcs.length) := by
    rw [List.zip_eq_zip_take_min, Nat.min_comm, ← List.take_eq_take_min, Nat.min_comm, ← List.take_eq_take_min]
  have hlen : (srcs.take ds'.length).length = (ds'.take srcs.length).length := by
    rw [List.length_take, List.length_take, Nat.min_comm]
  constructor
  case sources => simp only [List.map_append, ih.sources, hzip, List.map_fst_zip (Nat.le_of_eq hlen), List.take_append_drop]
  case returned => simp only [List.map_append, ih.returned, hzip, List.map_snd_zip (Nat.le_of_eq hlen.symm)]
  case inDests =>
    intro d hd
    rcases List.mem_append.mp hd with hd | hd
    · exact hperm.mem_iff.mp (List.mem_of_mem_take hd)
    · exact hperm.mem_iff.mp (ih.inDests d hd)
  case balanced =>
    by_cases hc : ds'.length ≤ srcs.length
    · refine ⟨q + 1, fun d hd => ?_⟩
      have hd' := hperm.mem_iff.mpr hd
      rw [List.take_of_length_le hc, List.count_append, hnd.count, if_pos hd', Nat.add_comm 1]
      exact ⟨Nat.succ_le_succ (hq d hd').1, Nat.succ_le_succ (hq d hd').2⟩
    · have hrp : rest.1 = [] :=
        List.map_eq_nil_iff.mp (ih.sources.trans (List.drop_eq_nil_of_le (Nat.le_of_not_le hc)))
      refine ⟨0, fun d _ => ⟨Nat.zero_le _, ?_⟩⟩
      simp only [ih.returned, hrp, List.map_nil, List.append_nil]
      exact Nat.le_trans ((List.take_sublist _ _).count_le d) (List.nodup_iff_count.mp hnd d)

theorem evenly_loop (fuel : Nat) : ∀ (srcs ds orc : List Nat), srcs.length < fuel → ds ≠ [] → ds.Nodup →
    EvenSpec srcs ds (connectEvenlyLoop fuel srcs ds orc) := by
  induction fuel with
  | zero => exact fun _ _ _ h => nomatch h
  | succ fuel ih =>
    intro srcs ds orc hf hne hnd
    by_cases hs : srcs = []
    · rw [hs, connectEvenlyLoop_nil]
      exact EvenSpec.nil ds
    · rw [connectEvenlyLoop_succ hs]
      have hperm := shuffle_perm ds orc
      have hne' : (shuffle ds orc).1 ≠ [] := fun e => hne (List.perm_nil.mp (e ▸ hperm.symm))
      have hnd' := hperm.nodup_iff.mpr hnd
      -- a round takes at least one source
      have hlt : (srcs.drop (shuffle ds orc).1.length).length < fuel :=
        List.length_drop ▸ Nat.lt_of_lt_of_le
          (Nat.sub_lt (List.length_pos_iff.mpr hs) (List.length_pos_iff.mpr hne')) (Nat.le_of_lt_succ hf)
      exact EvenSpec.round hperm hnd' (ih _ _ _ hlt hne' hnd')

theorem connectRandomlyTop_of_ne {dests : List Nat} (hne : dests ≠ []) (srcs : List Nat) (evenly : Bool)
    (maxC : Option Nat) (orc : List Nat) :
    connectRandomlyTop srcs dests evenly maxC orc =
      if evenly then some (connectEvenly srcs dests orc) else connectRandomly srcs dests maxC orc := by
  rw [connectRandomlyTop, if_neg (by simpa using hne)]

/-- `connect_randomly(world, src_set, dest_set, evenly=True, max_connects=…)` for a non-empty `dest_set` of distinct entities and
any oracle: with `evenly`, `max_connects` is not looked at -/
theorem evenly_any (srcs dests orc : List Nat) (maxC : Option Nat) (hne : dests ≠ []) (hnd : dests.Nodup) :
    ∃ r, connectRandomlyTop srcs dests true maxC orc = some r ∧
      r.1.map (·.1) = srcs ∧
      (∀ p ∈ r.1, p.2 ∈ dests) ∧
      (∀ d, d ∈ r.2 ↔ ∃ p ∈ r.1, p.2 = d) ∧
      (∀ d ∈ dests, ∀ d' ∈ dests, (r.1.map (·.2)).count d ≤ (r.1.map (·.2)).count d' + 1) := by
  have h : EvenSpec srcs dests (connectEvenly srcs dests orc) :=
    evenly_loop (srcs.length + 1) srcs dests orc (Nat.lt_succ_self _) hne hnd
  obtain ⟨q, hq⟩ := h.balanced
  refine ⟨_, connectRandomlyTop_of_ne hne srcs true maxC orc, h.sources, fun p hp => ?_, fun d => ?_, fun d hd d' hd' => ?_⟩
  · exact h.inDests _ (h.returned ▸ List.mem_map_of_mem hp)
  · rw [h.returned, List.mem_map]
  · rw [← h.returned]
    exact Nat.le_trans (hq d hd).2 (Nat.succ_le_succ (hq d' hd').1)

theorem evenly (srcs dests orc : List Nat) (hne : dests ≠ []) (hnd : dests.Nodup) :
    ∃ r, connectRandomlyTop srcs dests true none orc = some r ∧
      r.1.map (·.1) = srcs ∧
      (∀ p ∈ r.1, p.2 ∈ dests) ∧
      (∀ d, d ∈ r.2 ↔ ∃ p ∈ r.1, p.2 = d) ∧
      (∀ d ∈ dests, ∀ d' ∈ dests, (r.1.map (·.2)).count d ≤ (r.1.map (·.2)).count d' + 1) :=
  evenly_any srcs dests orc none hne hnd

/-- `count` looks at the pairs only -/
theorem count_cons (ds ds' : List Nat) (ps : List (Nat × Nat)) (src dest d : Nat) :
    RState.count ⟨ds, (src, dest) :: ps⟩ d = RState.count ⟨ds', ps⟩ d + if dest = d then 1 else 0 := by
  simp only [RState.count, List.map_cons, List.count_cons, beq_iff_eq]

theorem randomStep_nil (maxC : Option Nat) {st : RState} (src draw : Nat) (h : st.dests = []) :
    randomStep maxC st src draw = none := by
  rw [randomStep, h]; rfl

/-- one iteration, for every `max_connects`: a destination still in `dest_set` is drawn and recorded; it leaves
`dest_set` iff it is full now -/
theorem randomStep_eq (maxC : Option Nat) (st : RState) (src draw : Nat) (hne : st.dests ≠ []) :
    ∃ dest ∈ st.dests, randomStep maxC st src draw =
      some ⟨if maxC.any (· ≤ st.count dest + 1) then st.dests.erase dest else st.dests, (src, dest) :: st.pairs⟩ := by
  have hi : draw % st.dests.length < st.dests.length := Nat.mod_lt _ (List.length_pos_iff.mpr hne)
  refine ⟨st.dests[draw % st.dests.length], List.getElem_mem hi, ?_⟩
  have he : st.dests.isEmpty = false := by simpa using hne
  simp only [randomStep, he, Bool.false_eq_true, if_false, List.getD_eq_getElem?_getD, List.getElem?_eq_getElem hi,
    Option.getD_some]
  cases maxC with
  | none => rfl
  | some m => rw [count_cons _ st.dests, if_pos rfl]; rfl

theorem randomLoop_pairs (maxC : Option Nat) (srcs : List Nat) : ∀ (st : RState) (orc : List Nat) {st' : RState},
    randomLoop maxC st srcs orc = some st' →
    st'.pairs.map (·.1) = srcs.reverse ++ st.pairs.map (·.1) ∧ (∀ p ∈ st'.pairs, p ∈ st.pairs ∨ p.2 ∈ st.dests) := by
  induction srcs with
  | nil =>
    intro st _ st' h
    cases h
    exact ⟨rfl, fun _ h => .inl h⟩
  | cons src srcs ih =>
    intro st orc st' h
    rw [randomLoop] at h
    by_cases hne : st.dests = []
    · rw [randomStep_nil _ _ _ hne] at h
      cases h
    · obtain ⟨dest, hd, hs⟩ := randomStep_eq maxC st src (orc.headD 0) hne
      rw [hs] at h
      obtain ⟨h1, h3⟩ := ih _ _ h
      have hsub : ∀ d ∈ (if maxC.any (· ≤ st.count dest + 1) then st.dests.erase dest else st.dests), d ∈ st.dests := by
        intro d
        split
        · exact List.mem_of_mem_erase
        · exact id
      refine ⟨by rw [h1, List.reverse_cons, List.append_assoc]; rfl, fun p hp => ?_⟩
      rcases h3 p hp with hp | hp
      · rcases List.mem_cons.mp hp with rfl | hp
        · exact .inr hd
        · exact .inl hp
      · exact .inr (hsub _ hp)

/-- remaining capacity of the destinations still in `dest_set` -/
def cap (m : Nat) (st : RState) : Nat := (st.dests.map fun d => m - st.count d).sum

/-- what keeps the bounded loop from failing: `dest_set` holds exactly destinations with room left -/
structure HasRoom (m : Nat) (st : RState) : Prop where
  nodup : st.dests.Nodup
  room : ∀ d ∈ st.dests, st.count d < m
  bound : ∀ d, st.count d ≤ m

theorem sum_map_erase (f : Nat → Nat) {l : List Nat} {d : Nat} (hd : d ∈ l) :
    (l.map f).sum = f d + ((l.erase d).map f).sum := by
  simpa using ((List.perm_cons_erase hd).map f).sum_nat

theorem share_falls {m c rest : Nat} (hroom : c < m) : m - (c + 1) + rest + 1 = m - c + rest := by
  omega

theorem randomStep_inv {m : Nat} {st : RState} (src : Nat) {dest : Nat} (hinv : HasRoom m st) (hd : dest ∈ st.dests) :
    let st' : RState := ⟨if (some m).any (· ≤ st.count dest + 1) then st.dests.erase dest else st.dests, (src, dest) :: st.pairs⟩
    HasRoom m st' ∧ cap m st' + 1 = cap m st := by
  intro st'
  have hroom : st.count dest < m := hinv.room dest hd
  have hdest : st'.count dest = st.count dest + 1 := by rw [count_cons _ st.dests, if_pos rfl]
  have hother : ∀ d, d ≠ dest → st'.count d = st.count d := fun d hne => by
    rw [count_cons _ st.dests, if_neg (Ne.symm hne)]; rfl
  have hne : ∀ d ∈ st.dests.erase dest, d ≠ dest := fun d hd' => ((List.Nodup.mem_erase_iff hinv.nodup).mp hd').1
  have hsum : ((st.dests.erase dest).map fun d => m - st'.count d).sum = ((st.dests.erase dest).map fun d => m - st.count d).sum :=
    congrArg List.sum (List.map_congr_left fun d hd' => by rw [hother d (hne d hd')])
  have hbound : ∀ d, st'.count d ≤ m := fun d => by
    by_cases e : d = dest
    · rw [e, hdest]; exact hroom
    · rw [hother d e]; exact hinv.bound d
  rw [cap, cap, sum_map_erase (fun d => m - st.count d) hd]
  by_cases hfull : m ≤ st.count dest + 1
  · -- `dest` is full now and leaves `dest_set`
    have hds : st'.dests = st.dests.erase dest := if_pos (decide_eq_true hfull)
    rw [hds, hsum]
    refine ⟨{ nodup := hds ▸ hinv.nodup.erase _, room := fun d hd' => ?_, bound := hbound }, ?_⟩
    · rw [hds] at hd'
      rw [hother d (hne d hd')]
      exact hinv.room d (List.mem_of_mem_erase hd')
    · rw [← share_falls hroom, Nat.sub_eq_zero_of_le hfull, Nat.zero_add]
  · have hds : st'.dests = st.dests := if_neg (fun h => hfull (of_decide_eq_true h))
    rw [hds, sum_map_erase (fun d => m - st'.count d) hd, hsum, hdest]
    refine ⟨{ nodup := hds ▸ hinv.nodup, room := fun d hd' => ?_, bound := hbound }, share_falls hroom⟩
    by_cases e : d = dest
    · rw [e, hdest]; exact Nat.lt_of_not_le hfull
    · rw [hother d e]; exact hinv.room d (hds ▸ hd')

theorem randomLoop_ok (m : Nat) (srcs : List Nat) : ∀ (st : RState) (orc : List Nat),
    HasRoom m st → srcs.length ≤ cap m st → ∃ st', randomLoop (some m) st srcs orc = some st' ∧ HasRoom m st' := by
  induction srcs with
  | nil => exact fun st _ hinv _ => ⟨st, rfl, hinv⟩
  | cons src srcs ih =>
    intro st orc hinv hcap
    have hne : st.dests ≠ [] := fun e => by
      rw [cap, e] at hcap
      exact nomatch hcap
    obtain ⟨dest, hd, hs⟩ := randomStep_eq (some m) st src (orc.headD 0) hne
    obtain ⟨hinv1, hcap1⟩ := randomStep_inv src hinv hd
    rw [← hcap1] at hcap
    rw [randomLoop, hs]
    exact ih _ orc.tail hinv1 (Nat.le_of_succ_le_succ hcap)

theorem result_of_loop {srcs dests : List Nat} {maxC : Option Nat} {orc : List Nat} {st' : RState} (hne : dests ≠ [])
    (hsize : maxC.all (srcs.length ≤ dests.length * ·))
    (h : randomLoop maxC ⟨dests, []⟩ srcs orc = some st') :
    ∃ r, connectRandomlyTop srcs dests false maxC orc = some r ∧ r.1.map (·.1) = srcs ∧ (∀ p ∈ r.1, p.2 ∈ dests) ∧
      (∀ d, d ∈ r.2 ↔ ∃ p ∈ r.1, p.2 = d) ∧ ∀ d, (r.1.map (·.2)).count d = st'.count d := by
  obtain ⟨h1, h3⟩ := randomLoop_pairs maxC srcs _ orc h
  refine ⟨(st'.pairs.reverse, st'.pairs.map (·.2)), ?_, ?_, fun p hp => ?_, fun d => ?_, fun d => ?_⟩
  · rw [connectRandomlyTop_of_ne hne]
    cases maxC with
    | none => simp [connectRandomly, hne, h]
    | some m => simp [connectRandomly, of_decide_eq_true hsize, h]
  · rw [List.map_reverse, h1, List.reverse_append, List.reverse_reverse]
    rfl
  · exact (h3 p (List.mem_reverse.mp hp)).resolve_left (fun h => nomatch h)
  · simp only [List.mem_map, List.mem_reverse]
  · rw [List.map_reverse, List.count_reverse]
    rfl

/-- `connect_randomly(…, evenly=False, max_connects=m)`: with distinct destinations it never fails when
`len(src) ≤ len(dest) * m`, connects every source exactly once (in order) to a destination of `dest_set`, no destination more
than `m` times, and returns the destinations that were connected -/
theorem randomly (srcs dests orc : List Nat) (m : Nat) (hne : dests ≠ []) (hnd : dests.Nodup)
    (hsize : srcs.length ≤ dests.length * m) :
    ∃ r, connectRandomlyTop srcs dests false (some m) orc = some r ∧
      r.1.map (·.1) = srcs ∧
      (∀ p ∈ r.1, p.2 ∈ dests) ∧
      (∀ d, d ∈ r.2 ↔ ∃ p ∈ r.1, p.2 = d) ∧
      (∀ d, (r.1.map (·.2)).count d ≤ m) := by
  have hsz : (some m).all (srcs.length ≤ dests.length * ·) := decide_eq_true hsize
  cases m with
  | zero =>
    -- `max_connects = 0` admits no source
    have : srcs = [] := List.eq_nil_of_length_eq_zero (Nat.le_zero.mp hsize)
    subst this
    obtain ⟨r, h, h1, h2, h3, h4⟩ := result_of_loop hne hsz (st' := ⟨dests, []⟩) rfl
    exact ⟨r, h, h1, h2, h3, fun d => Nat.le_of_eq (h4 d)⟩
  | succ k =>
    have hinv0 : HasRoom (k + 1) ⟨dests, []⟩ :=
      { nodup := hnd, room := fun _ _ => Nat.succ_pos k, bound := fun _ => Nat.zero_le _ }
    have hcap0 : cap (k + 1) ⟨dests, []⟩ = dests.length * (k + 1) := by
      simp [cap, RState.count, List.map_const', List.sum_replicate_nat]
    obtain ⟨st', hl, hinv⟩ := randomLoop_ok (k + 1) srcs _ orc hinv0 (hcap0 ▸ hsize)
    obtain ⟨r, h, h1, h2, h3, h4⟩ := result_of_loop hne hsz hl
    exact ⟨r, h, h1, h2, h3, fun d => h4 d ▸ hinv.bound d⟩

/-- without a bound `dest_set` never shrinks, so the loop cannot fail -/
theorem randomLoop_unbounded (srcs : List Nat) : ∀ (st : RState) (orc : List Nat), st.dests ≠ [] →
    ∃ st', randomLoop none st srcs orc = some st' := by
  induction srcs with
  | nil => exact fun st _ _ => ⟨st, rfl⟩
  | cons src srcs ih =>
    intro st orc hne
    obtain ⟨dest, _, hs⟩ := randomStep_eq none st src (orc.headD 0) hne
    rw [randomLoop, hs]
    exact ih _ orc.tail hne

/-- with `max_connects = inf` (the default) nothing can fail and nothing is bounded -/
theorem randomly_unbounded (srcs dests orc : List Nat) (hne : dests ≠ []) :
    ∃ r, connectRandomlyTop srcs dests false none orc = some r ∧
      r.1.map (·.1) = srcs ∧ (∀ p ∈ r.1, p.2 ∈ dests) ∧ (∀ d, d ∈ r.2 ↔ ∃ p ∈ r.1, p.2 = d) := by
  obtain ⟨st', hl⟩ := randomLoop_unbounded srcs ⟨dests, []⟩ orc hne
  obtain ⟨r, h, h1, h2, h3, _⟩ := result_of_loop hne rfl hl
  exact ⟨r, h, h1, h2, h3⟩

/-! non-vacuity: the hypotheses are met by ordinary calls, including the "exactly full" case -/
example : connectRandomlyTop [0, 1] [100] false (some 2) [5, 9] = some ([(0, 100), (1, 100)], [100, 100]) := by decide +kernel
example : ([100] : List Nat) ≠ [] ∧ ([100] : List Nat).Nodup ∧ [0, 1].length ≤ [100].length * 2 := by decide +kernel
example : (connectRandomlyTop [0, 1, 2] [7, 8] true none [1, 0]).map (·.1.length) = some 3 := by decide +kernel

end Mosaik.C18
