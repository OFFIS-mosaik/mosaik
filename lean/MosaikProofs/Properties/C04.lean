/-
C04  Schedule and configuration independence.

* `lazy_refines_eager`, `lazy_run_is_eager_run` : lazy stepping can only remove interleavings, never add an observation.
* `begin_inputs_stable` (flat configurations, push path), `begin_inputs_stable_cached` (cached connections, the default
  `cache=True`) : the observation a simulator makes next is fixed as soon as its step is enabled, whatever happens first — the
  commutation fact the independence of the observations from the interleaving rests on.
* `cache_on_off_same_value` (data level of "the data cache on or off"), `inputs_function_of_history` (the induction step of the
  confluence argument).
NOT proved: that all maximal runs give every simulator the same (time, inputs) sequence (the commutation/confluence argument
of DESIGN.md).  That part is decided by exhaustive enumeration of all reply interleavings of small scenarios on the real
scheduler and by the cross product of configurations (lazy, cache, debug, start order, in-process / subprocess) on generated
scenarios.
-/
import MosaikProofs.Sched.CachePush
import MosaikProofs.Sched.WFLive
import MosaikProofs.Sched.Eager
namespace Mosaik.C04
open Mosaik

/-- every action of the lazy system is an action of the eager system, with the same result -/
theorem lazy_refines_eager (cfg : Cfg) (s s' : State) (a : Action) (h : step cfg s a = some s') :
    step (eager cfg) s a = some s' := by
  cases a with
  | deps p =>
    cases step_fires h with
    | deps p t c rest hf hp hpc hready hnext =>
      exact (Fires.deps (cfg := eager cfg) p t c rest hf hp hpc (depsReady_eager cfg s p t hready) hnext).step
  | start p =>
    rw [← h]
    unfold step stepStart
    rw [advance_eager, settle_eager]
    rfl
  | wake p =>
    rw [← h]
    unfold step stepWake
    rw [advance_eager, settle_eager]
    rfl
  | stepReply p r =>
    rw [← h]
    unfold step stepStepReply processStepReply
    rw [afterStep_eager]
    rfl
  | dataReply p d =>
    rw [← h]
    unfold step stepDataReply processDataReply
    rw [storeOutputs_eager, finish_eager]
    rfl
  | _ =>
    rw [← h]
    rfl

/-- every run with lazy stepping is a run without it -/
theorem lazy_run_is_eager_run (cfg : Cfg) : ∀ (as : List Action) (s s' : State),
    exec cfg s as = some s' → exec (eager cfg) s as = some s' := by
  intro as s s' h
  refine exec_ind (P := fun s as s' => exec (eager cfg) s as = some s') (fun _ => rfl) ?_ as h
  intro s s1 s' a as hs _ ih
  rw [exec, lazy_refines_eager cfg s s1 a hs]
  exact ih

/-- the converse fails only through the extra wait: an eager `deps` whose consumers have reached the
step is also a lazy one -/
theorem eager_deps_is_lazy_when_consumers_ready (cfg : Cfg) (s : State) (p : Sid) (t : TT)
    (h : depsReady (eager cfg) s p t = true)
    (hc : (cfg.sim p).succs.all (fun sd => decide (TI.act t sd.2 ≤ (s.sims sd.1).progress)) = true) :
    depsReady cfg s p t = true := by
  rw [depsReady_iff] at h ⊢
  exact ⟨h.1, h.2.1, fun _ sd hsd => of_decide_eq_true (List.all_eq_true.mp hc sd hsd)⟩

theorem stepInputs_eq_of {cfg : Cfg} {s s' : State} {q : Sid} {c : TT} (hlook : LookEq (lookups cfg q c) s s')
    (hown : OwnEq q s s') (hdue : dueAt (TT.time c) (s'.sims q).buffer = dueAt (TT.time c) (s.sims q).buffer) :
    stepInputs cfg s' q c = stepInputs cfg s q c := by
  unfold stepInputs
  simp only [own_persistent hown, own_setData hown]
  rw [pullInputs_congr hlook]
  unfold bufferTake
  simp only
  unfold dueAt at hdue
  rw [hdue]

/-- `q` waits for its step `c` with its dependencies ready.  What a provider `p` of `q` reports in its running step `cp`, for an
output time not before that step, lies after `c` once delayed by at least the minimal input delay: readiness says that `c` lies
before the progress of `p`, which is `cp`, delayed by the minimal delay (`due_after`). -/
theorem reply_after_ready {cfg : Cfg} (hw : WFCfg cfg) (hs : WFShape cfg) {rank : Sid → Nat} (hfl : Flat cfg rank)
    {s : State} (hr : Reach cfg s) (hnf0 : s.failed = none) {q : Sid} (hq : q < cfg.n) {c : TT}
    (hpc : (s.sims q).pc = .waitDeps c) (hready : depsReady cfg s q c = true)
    {p : Sid} (hp : p < cfg.n) {d : DataReply} {cp : TT} (hcur : (s.sims p).cur = some cp)
    (hot : ¬ (TT.time cp : Int) > (outTimeOf cp d).1)
    {sh d0 : TI} (hd0 : (p, d0) ∈ (cfg.sim q).inputDelays) (hle : TI.le d0 sh) (hc1 : sh.cutoff = 1) (hl1 : sh.tiers.length = 1) :
    TT.time c < (outTimeOf cp d).1.toNat + tier sh.tiers 0 := by
  obtain ⟨hcore, hpcs⟩ := reach_good hw hr hnf0
  exact due_after ((hcore p hp).cur_eq cp hcur ▸ (depsReady_iff.mp hready).1 (p, d0) hd0) hle
    (by rw [((reach_shape hw hs hr) q).1 c (List.mem_of_mem_head? ((hpcs q hq).waiting c hpc).1), hfl.depth]) hc1 hl1 hot

/-- a value pushed now is not yet due at `c` (`reply_after_ready`) -/
theorem due_stable {cfg : Cfg} (hw : WFCfg cfg) (hs : WFShape cfg) {rank : Sid → Nat} (hfl : Flat cfg rank) (hpo : PushOk cfg)
    {s s' : State} (hr : Reach cfg s) (hnf0 : s.failed = none) {q : Sid} (hq : q < cfg.n) {c : TT}
    (hpc : (s.sims q).pc = .waitDeps c) (hready : depsReady cfg s q c = true)
    {a : Action} (hact : a.actor ≠ some q) (h : step cfg s a = some s') :
    dueAt (TT.time c) (s'.sims q).buffer = dueAt (TT.time c) (s.sims q).buffer := by
  apply step_other_due (TT.time c) h hact
  rintro p d cp ⟨_, hp, hcur, hot⟩ pe hpe hpq
  obtain ⟨d0, hd0, hle⟩ := hpo.covered p hp pe hpe
  obtain ⟨hc1, hl1⟩ := hpo.shape p hp pe hpe
  exact reply_after_ready hw hs hfl hr hnf0 hq hpc hready hp hcur hot (hpq ▸ hd0) hle hc1 hl1

/-- Commutation.  Flat configuration, values delivered by pushing (no cached connection into `q`).  `q` is waiting for its
dependencies for the step `c` and they are ready.  Then any action `a` of another simulator — a start, a wake-up, another
step beginning, a reply to `step` or `get_data` with whatever content; not an asynchronous `set_data` addressed to `q` (the
deprecated async-requests feature) — that does not fail leaves `q` waiting for the same step, still ready, with the same own
state, and with exactly the same step inputs. -/
theorem begin_inputs_stable {cfg : Cfg} (hw : WFCfg cfg) (hs : WFShape cfg) {rank : Sid → Nat} (hfl : Flat cfg rank) (hpo : PushOk cfg)
    {s s' : State} (hr : Reach cfg s) (hnf0 : s.failed = none) {q : Sid} (hq : q < cfg.n) {c : TT}
    (hpc : (s.sims q).pc = .waitDeps c) (hready : depsReady cfg s q c = true) (hpulled : (cfg.sim q).pulled = [])
    {a : Action} (hact : a.actor ≠ some q) (hset : ∀ p e, a ≠ .setData p q e)
    (h : step cfg s a = some s') (hnf : s'.failed = none) :
    (s'.sims q).pc = .waitDeps c ∧ depsReady cfg s' q c = true ∧ OwnEq q s s' ∧
    stepInputs cfg s' q c = stepInputs cfg s q c := by
  have hown := step_other_own h hact hset
  have hpc' : (s'.sims q).pc = .waitDeps c := (own_pc hown).trans hpc
  have hlook : LookEq (lookups cfg q c) s s' := fun x hx => by rw [lookups, hpulled] at hx; cases hx
  exact ⟨hpc', depsReady_mono (step_mono hw hr h hnf).1 hready, hown, stepInputs_eq_of hlook hown (due_stable hw hs hfl hpo hr hnf0 hq hpc hready hact h)⟩

/-- Commutation, cache path: with cached (pulled) connections into `q` such an action leaves the step inputs the same,
provided the output times of the sources have not gone back (`hsorted`, `hmono`: the cache keys increase in insertion order;
the complement of the known finding about non-monotone output times) and the cached connections are covered by the
input-delay table (`PullOk`). -/
theorem begin_inputs_stable_cached {cfg : Cfg} (hw : WFCfg cfg) (hs : WFShape cfg) {rank : Sid → Nat} (hfl : Flat cfg rank)
    (hpo : PushOk cfg) (hpl : PullOk cfg)
    {s s' : State} (hr : Reach cfg s) (hnf0 : s.failed = none) {q : Sid} (hq : q < cfg.n) {c : TT}
    (hpc : (s.sims q).pc = .waitDeps c) (hready : depsReady cfg s q c = true)
    {a : Action} (hact : a.actor ≠ some q) (hset : ∀ p e, a ≠ .setData p q e)
    (hsorted : ∀ r, Sorted (s.sims r).outputs)
    (hmono : ∀ p d c', a = .dataReply p d → (s.sims p).cur = some c' → ∀ e ∈ (s.sims p).outputs, e.1 ≤ (outTimeOf c' d).1)
    (h : step cfg s a = some s') (hnf : s'.failed = none) :
    stepInputs cfg s' q c = stepInputs cfg s q c := by
  have hlast := reach_lastTime_le hw hr hnf0 hq
  rw [(((reach_good hw hr hnf0).2 q hq).waiting c hpc).2.1] at hlast
  -- neither pruning nor a provider's reply (its entry lies after what the step reads) changes a lookup of the step
  have hlook : LookEq (lookups cfg q c) s s' := by
    apply step_look h hact hsorted
    · intro st hl hso x hx
      obtain ⟨e, he, rfl⟩ := List.mem_map.mp hx
      simp only
      apply prune_state_lookups cfg st (hpl.range q hq e he) hq he rfl (hso e.1)
      unfold lastTime at hlast ⊢
      rw [hl]; exact hlast
    · rintro p d cp ⟨ha, hp, hcur, hot⟩
      refine ⟨?_, hmono p d cp ha hcur⟩
      intro x hx hxp
      obtain ⟨e, he, rfl⟩ := List.mem_map.mp hx
      simp only at hxp ⊢
      obtain ⟨d0, hd0, hle⟩ := hpl.covered q hq e he
      rw [hxp] at hd0
      obtain ⟨hc1, hl1⟩ := hpl.shape q hq e he
      have hlt := reply_after_ready hw hs hfl hr hnf0 hq hpc hready hp hcur hot hd0 hle hc1 hl1
      have h0 : (0 : Int) ≤ (outTimeOf cp d).1 := Int.le_trans (Int.natCast_nonneg _) (Int.not_lt.mp hot)
      rw [← Int.toNat_of_nonneg h0]
      exact Int.sub_right_lt_of_lt_add (Int.ofNat_lt.mpr hlt)
  exact stepInputs_eq_of hlook (step_other_own h hact hset) (due_stable hw hs hfl hpo hr hnf0 hq hpc hready hact h)

/-- The inputs of a step are a function of the sources' output histories (flat configurations, push path): two states — of
the same run or of two different interleavings — in which `q` begins its step for time `c`, and in which the source of a pushed
persistent connection has produced the same values with due time at or before `c`, hand `q` the same value under the
connection's key.  (By `C01.causal_state`, when the step begins the source has produced *all* it will ever produce with a due time
at or before `c`; so the value depends on the interleaving only through the source's own behaviour.) -/
theorem inputs_function_of_history {cfg : Cfg} (h1 : cfg.wfB = true) (h2 : cfg.shapeB = true) (h3 : cfg.flatB cfg.zeroRank = true)
    (h4 : cfg.pushB = true) {src q : Sid} {pe : Port × Sid × TI × Port} (hq : q < cfg.n)
    (hkey : (cfg.sim src).push.filter (hits q (keyOf src pe) src) = [pe]) (hpull : (cfg.sim q).pulled = [])
    {d0 : Val} (hd0 : InputData.get? (cfg.sim q).persistent0 (keyOf src pe) = some d0)
    {s₁ s₁' s₂ s₂' : State} (hr₁ : ReachP cfg s₁) (hr₂ : ReachP cfg s₂) (hn₁ : s₁.failed = none) (hn₂ : s₂.failed = none)
    (hb₁ : step cfg s₁ (.deps q) = some s₁') (hb₂ : step cfg s₂ (.deps q) = some s₂') (hn₁' : s₁'.failed = none) (hn₂' : s₂'.failed = none) :
    ∃ c₁ inp₁ m₁ c₂ inp₂ m₂, s₁'.log = .begin q c₁ inp₁ m₁ :: s₁.log ∧ s₂'.log = .begin q c₂ inp₂ m₂ :: s₂.log ∧
      (TT.time c₁ = TT.time c₂ →
        (chist src pe s₁.log).filter (fun x => decide (x.1 ≤ TT.time c₁)) = (chist src pe s₂.log).filter (fun x => decide (x.1 ≤ TT.time c₁)) →
        InputData.get? inp₁ (keyOf src pe) = InputData.get? inp₂ (keyOf src pe)) := by
  obtain ⟨c₁, inp₁, m₁, hl₁, _, hv₁⟩ := Mosaik.begin_push_refines_spec (wfB_sound h1) (shapeB_sound h2) (flatB_sound h3) (pushB_sound h4)
    hq hkey hpull hr₁ hn₁ hb₁ hn₁'
  obtain ⟨c₂, inp₂, m₂, hl₂, _, hv₂⟩ := Mosaik.begin_push_refines_spec (wfB_sound h1) (shapeB_sound h2) (flatB_sound h3) (pushB_sound h4)
    hq hkey hpull hr₂ hn₂ hb₂ hn₂'
  refine ⟨c₁, inp₁, m₁, c₂, inp₂, m₂, hl₁, hl₂, fun hc hh => ?_⟩
  rw [hv₁ d0 hd0, hv₂ d0 hd0, ← hc, hh]

/-- Cache on or off: read off one log, the value the cache path delivers (`C03.pull_refines_spec`) and the one the push path
delivers (`C03.begin_push_refines_spec`) over a persistent connection are equal — `(lookup of the never-pruned cache at
c − shift)[attr] = last produced value due at or before c` — whenever the reported output times do not go back and every reply
carries the attribute (`LogOk`, assumed of the log, derived for no run) and there is no initial data. -/
theorem cache_on_off_same_value (cfg : Cfg) (src : Sid) (sport : Port) (sh : Nat) (h0 : (cfg.sim src).outputs0 = []) (c : Nat)
    (log : List Event) (hok : LogOk src sport log) :
    (OutData.get? (getOutputFor (histOf cfg src log) ((c : Int) - (sh : Int))) sport).getD none =
      lastVal ((pushHist src sport sh log).filter (fun x => decide (x.1 ≤ c))) none :=
  cache_push_agree cfg src sport sh h0 c log hok

/-- non-vacuity: two replies (7 at time 0, 8 at time 1) over a connection of shift 1: at step time 1 the cache path gives 7, at 2 the push path gives 8 -/
example : LogOk 0 (0, 0) [.got 0 [1] [1] [((0, 0), some 8)], .stepped 0 [1], .got 0 [0] [0] [((0, 0), some 7)]] := by
  simp [LogOk, gotTimes, OutData.get?, TT.time, tier]

example : (OutData.get? (getOutputFor (histOf {} 0 [.got 0 [1] [1] [((0, 0), some 8)], .stepped 0 [1], .got 0 [0] [0] [((0, 0), some 7)]]) ((1 : Int) - 1)) (0, 0)).getD none = some 7 ∧
    lastVal ((pushHist 0 (0, 0) 1 [.got 0 [1] [1] [((0, 0), some 8)], .stepped 0 [1], .got 0 [0] [0] [((0, 0), some 7)]]).filter (fun x => decide (x.1 ≤ 2))) none = some 8 := by
  decide +kernel

end Mosaik.C04
