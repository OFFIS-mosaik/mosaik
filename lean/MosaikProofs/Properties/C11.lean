/-
C11  Connection validation and group scoping.

* `exact`      : `connect_one` raises ScenarioError exactly in the four documented cases
* `no_trace`   : a rejected attribute pair leaves the world unchanged
* `connect_never_internal_error` : the `assert` of `TieredInterval.__lt__` behind `min(input_delays[src], delay)` cannot fire
* `scoping_*`  : the delay's cutoff is the depth of the innermost group containing both simulators (longest common prefix of
                 their group paths, compared by identity); groups that part at the first step share only the main group
-/
import MosaikProofs.Build.Invariant
namespace Mosaik.C11
open Mosaik

/-- every group that contains both simulators contains their common group: it is the innermost -/
theorem common_innermost : ∀ (g a b : Group), g <+: a → g <+: b → g <+: Group.common a b := by
  intro g
  induction g with
  | nil => exact fun _ _ _ _ => List.nil_prefix
  | cons z zs ih =>
    intro a b h1 h2
    cases a with
    | nil => exact nomatch List.prefix_nil.mp h1
    | cons x xs =>
      cases b with
      | nil => exact nomatch List.prefix_nil.mp h2
      | cons y ys =>
        obtain ⟨rfl, h1'⟩ := List.cons_prefix_cons.mp h1
        obtain ⟨rfl, h2'⟩ := List.cons_prefix_cons.mp h2
        unfold Group.common
        rw [if_pos rfl]
        exact List.cons_prefix_cons.mpr ⟨rfl, ih xs ys h1' h2'⟩

theorem common_self : ∀ (g : Group), Group.common g g = g := by
  intro g
  induction g with
  | nil => rfl
  | cons x xs ih => unfold Group.common; rw [if_pos rfl, ih]

/-- sibling groups (and any two groups that part at the first step) share only the main group -/
theorem common_siblings (x y : Nat) (xs ys : Group) (h : x ≠ y) : Group.common (x :: xs) (y :: ys) = [] := by
  unfold Group.common; simp [h]

/-- a weak connection is refused exactly when the simulators share no group but the main one -/
theorem weak_refused_iff (s d : Group) (ts w : Nat) (hw : w ≠ 0) :
    connectInterval s d ts w = none ↔ Group.common s d = [] := by
  rw [connectInterval_eq_none, and_iff_right hw]

/-- shape of the delay of a connection: pre-length = depth of the source's group, length = depth of the destination's group,
cutoff = depth of the common group -/
theorem scoping_shape {s d : Group} {ts w : Nat} {iv : TI} (h : connectInterval s d ts w = some iv) :
    iv.pre = Group.depth s ∧ iv.tiers.length = Group.depth d ∧
    iv.cutoff = Group.depth (Group.common s d) ∧ iv.WF := by
  obtain ⟨h1, h2, h3⟩ := connectInterval_lengths h
  refine ⟨h1, h2, h3, ?_⟩
  rw [TI.WF, h1, h2, h3]
  exact ⟨Nat.succ_pos _, Nat.succ_le_succ (Group.common_prefix s d).1.length_le,
    Nat.succ_le_succ (Group.common_prefix s d).2.length_le⟩

/-- the tiers of the delay: the time shift on tier 0, the weak step on the last shared tier, zero elsewhere -/
theorem scoping_tiers {s d : Group} {ts w : Nat} {iv : TI} (h : connectInterval s d ts w = some iv) (i : Nat) :
    tier iv.tiers i =
      if w ≠ 0 ∧ i = (Group.common s d).length then w
      else if ts ≠ 0 ∧ i = 0 then ts else 0 := by
  have h2 := (Group.common_prefix s d).2.length_le
  rw [connectInterval_eq, Option.ite_none_left_eq_some] at h
  cases h.2
  by_cases hw : w = 0 <;> by_cases hts : ts = 0 <;>
    simp [hw, hts, tier_set, tier_replicate_zero, Nat.lt_succ_of_le h2]

/-- `connect_one` raises ScenarioError exactly when: the source attribute is not an output, the destination attribute is not an
input, a time-shifted or weak connection into a non-trigger input lacks initial data, or a weak connection is requested between
simulators sharing no group -/
theorem exact (r : ConnReq) :
    connectOneCheck r = none ↔
      r.srcIsOutput = false ∨ r.destIsInput = false ∨
      ((r.timeShifted ≠ 0 ∨ r.weak = true) ∧ r.destNonTrigger = true ∧ r.hasInit = false) ∨
      (r.weak = true ∧ Group.common r.srcGroup r.destGroup = []) := by
  have hw : (if r.weak = true then 1 else 0) ≠ 0 ↔ r.weak = true := by cases r.weak <;> simp
  -- the attribute checks of `connect_one` become the first three alternatives
  simp only [connectOneCheck, Bool.or_eq_true, Bool.and_eq_true, Bool.not_eq_true', decide_eq_true_eq, and_assoc,
    ← or_assoc]
  split
  · rename_i h
    exact iff_of_true rfl (.inl h)
  · -- past them only `connect_interval` can refuse
    rename_i h
    rw [connectInterval_eq_none, hw]
    exact ⟨.inr, fun h' => h'.resolve_left h⟩

/-- a rejected attribute pair leaves no trace: the world after `connect` with that single pair (and no async request) is the
world before -/
theorem no_trace (w : World) (c : ConnectCall) (sa da : Nat) (e : BuildErr)
    (h : w.connectOne c sa da = .error e) :
    (w.connect { c with pairs := [(sa, da)], asyncReq := false }).1 = w := by
  have hc : ∀ sa da, w.connectOne { c with pairs := [(sa, da)], asyncReq := false } sa da = w.connectOne c sa da := by
    intro sa da; rfl
  simp [World.connect, hc, h]

/-- an accepted pair passed the validation: by `exact`, none of its four conditions holds -/
theorem accepted_valid (w : World) (c : ConnectCall) (sa da : Nat) (w' : World)
    (h : w.connectOne c sa da = .ok w') : connectOneCheck (w.connReq c sa da) ≠ none := by
  intro hn
  simp [World.connectOne, hn] at h

example : connectInterval [0] [1] 0 1 = none ∧ connectInterval [0, 0] [0, 1] 0 1 = some ⟨3, 2, [0, 1, 0]⟩
    ∧ connectInterval [0] [] 2 0 = some ⟨2, 1, [2]⟩ := by decide +kernel

/-- `connect` never dies with an internal error: from any scenario built by valid `start` / `connect` / `set_initial_event`
calls, a `connect` call between entities of started simulators (any number of attribute pairs, with or without
`async_requests`) either succeeds or raises ScenarioError, because all delays stored for one pair of simulators have one shape
(builder invariant `Build.BuiltOk`); and the world it leaves behind is again well built (so the statement holds for the next
call as well) -/
theorem connect_never_internal_error (ops : List Build.Op) (hv : Build.Valid {} ops) (c : ConnectCall)
    (hs : c.src < (Build.build ops).sims.length) (hd : c.dst < (Build.build ops).sims.length) :
    ((Build.build ops).connect c).2 ≠ some .assertion ∧ Build.BuiltOk ((Build.build ops).connect c).1 := by
  have h := Build.built_ok hv
  exact ⟨(Build.connect_builtOk h c hs hd).2, (Build.connect_builtOk h c hs hd).1⟩

/-- what every built scenario satisfies: the tables only mention started simulators, every stored delay has the shape the
two groups dictate, `input_delays` holds one entry per predecessor, which is a lower bound of every trigger connection's delay -/
theorem built_tables (ops : List Build.Op) (hv : Build.Valid {} ops) : Build.BuiltOk (Build.build ops) :=
  Build.built_ok hv

/-- non-vacuity: after four calls (two starts in a group, a weak connection after a plain one between the same pair; that they
are `Build.Valid` is not stated) the pair's `input_delays` entry is the minimum (the plain delay) -/
example :
    let d : SimDecl := { ty := .hybrid, group := [0], cls := (parseAttrs { anyInputs := false, attrs := some [0, 1, 2, 3], trigger := some [1], nonPersistent := some [3] } .hybrid).getD default }
    let ops : List Build.Op := [.start d, .start d, .connect { src := 0, seid := 0, dst := 1, deid := 0, pairs := [(3, 1)] },
      .connect { src := 0, seid := 0, dst := 1, deid := 0, pairs := [(3, 1)], weak := true }]
    ((Build.build ops).sim 1).inputDelays = [(0, ⟨2, 2, [0, 0]⟩)] ∧ ((Build.build ops).sim 0).triggers.length = 2 := by
  decide +kernel

end Mosaik.C11
