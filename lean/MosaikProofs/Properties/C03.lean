/-
C03  Data-flow fidelity of step inputs: the building blocks (for every buffer content, step time and prior inputs), then whole
runs, provenance, the cache path and the push path, each under its heading below.
NOT proved: the push path for grouped configurations (where the known finding C03-subtier-blind lives) — decided by the
specification monitor on implementation traces (clean class) and by the correspondence; the known findings D12, D14,
event-with-initial-data and non-monotone output times are exactly where the refinement fails (see known_findings.json).
-/
import MosaikProofs.Sched.BufferSrc
import MosaikProofs.Sched.CacheRef
import MosaikProofs.Sched.WFLive
import MosaikProofs.Build.RunConfig
namespace Mosaik.C03
open Mosaik

theorem buffer_rest (buf : List BufEntry) (step : Nat) (inp : InputData) :
    (bufferTake buf step inp).2 = buf.filter (fun e => !(e.time ≤ step)) := rfl

theorem buffer_taken (buf : List BufEntry) (step : Nat) (inp : InputData) :
    (bufferTake buf step inp).1 = (buf.filter (·.time ≤ step)).foldl (fun acc e => InputData.set acc e.key e.val) inp := rfl

/-- not lost: an entry that is not yet due stays in the buffer -/
theorem event_kept_until_due (buf : List BufEntry) (step : Nat) (inp : InputData) (e : BufEntry)
    (he : e ∈ buf) (hnd : ¬ e.time ≤ step) : e ∈ (bufferTake buf step inp).2 := by
  rw [buffer_rest]; simp [List.mem_filter, he, hnd]

/-- not duplicated: a due entry leaves the buffer with the step that takes it -/
theorem event_removed_when_delivered (buf : List BufEntry) (step : Nat) (inp : InputData) (e : BufEntry)
    (hd : e.time ≤ step) : e ∉ (bufferTake buf step inp).2 := by
  rw [buffer_rest]; simp [List.mem_filter, hd]

/-- delivered: the last due entry of a connection key is in the inputs of that step -/
theorem event_delivered (buf : List BufEntry) (step : Nat) (inp : InputData) (e : BufEntry) (pre rest : List BufEntry)
    (hsplit : buf.filter (fun e => decide (e.time ≤ step)) = pre ++ e :: rest)
    (hlast : ∀ f ∈ rest, f.key ≠ e.key) :
    InputData.get? (bufferTake buf step inp).1 e.key = some e.val := by
  rw [buffer_taken, hsplit]
  exact foldl_set_last pre e rest inp hlast

/-- nothing undue, nothing invented: a key that no due entry carries keeps its value -/
theorem undue_not_delivered (buf : List BufEntry) (step : Nat) (inp : InputData) (k : InKey)
    (h : ∀ e ∈ buf, e.time ≤ step → e.key ≠ k) :
    InputData.get? (bufferTake buf step inp).1 k = InputData.get? inp k := by
  rw [buffer_taken]
  apply foldl_set_other
  intro e he
  rw [List.mem_filter, decide_eq_true_eq] at he
  exact h e he.1 he.2

/-- the merge of set_data inputs and remembered persistent inputs -/
def mergePersistent (setData persistent : InputData) : InputData :=
  persistent.foldl (fun acc e => if InputData.has acc e.1 then acc else acc ++ [e]) setData

/-- a set_data value survives the merge with what was remembered; that the step sees it: `C16.delivered_in_next_step` -/
theorem set_data_wins (setData persistent : InputData) (k : InKey) (v : Val)
    (h : InputData.get? setData k = some v) : InputData.get? (mergePersistent setData persistent) k = some v := by
  rw [mergePersistent, get?_merge, h]

/-- a key that set_data did not provide gets the remembered persistent value (the first entry of that key) -/
theorem persistent_default (persistent : InputData) : ∀ (acc : InputData) (k : InKey),
    InputData.get? acc k = none →
    InputData.get? (persistent.foldl (fun acc e => if InputData.has acc e.1 then acc else acc ++ [e]) acc) k
      = InputData.get? persistent k := by
  intro acc k h
  rw [get?_merge, h]

/-- `InputData.get?_set_same` at the key and value of one fold step of `pullInputs`: connection `e`, the source's cached
output at (step time − shift) -/
theorem pulled_is_cached_value (cfg : Cfg) (s : State) (c : TT) (e : Sid × TI × Port × Port) (acc : InputData) :
    let key : InKey := { eid := e.2.2.2.1, attr := e.2.2.2.2, ssid := e.1, seid := e.2.2.1.1 }
    let cache := getOutputFor (s.sims e.1).outputs ((TT.time c : Int) - (tier e.2.1.tiers 0 : Int))
    InputData.get? (InputData.set acc key ((OutData.get? cache e.2.2.1).getD none)) key
      = some ((OutData.get? cache e.2.2.1).getD none) := by
  intro key cache
  exact InputData.get?_set_same _ _ _

/-- the cache lookup returns the data of an entry whose time is at or before the requested time, or nothing if there is none
(that the entry is the newest such one is said of the history by `hist_lookup_newest`) -/
theorem getOutputFor_spec (outputs : List (Int × OutData)) (time : Int) :
    (getOutputFor outputs time = [] ∧ ∀ e ∈ outputs, ¬ e.1 ≤ time ∨ e.2 = []) ∨
    (∃ e ∈ outputs, e.1 ≤ time ∧ getOutputFor outputs time = e.2) := by
  unfold getOutputFor
  cases h : outputs.reverse.find? (fun e => decide (e.1 ≤ time)) with
  | none =>
    left
    refine ⟨rfl, ?_⟩
    intro e he
    left
    have := List.find?_eq_none.mp h e (List.mem_reverse.mpr he)
    simpa using this
  | some e =>
    right
    refine ⟨e, List.mem_reverse.mp (List.mem_of_find?_eq_some h), ?_, rfl⟩
    simpa using List.find?_some h

/-- the inputs of the step request are `stepInputs` of the state in which the step begins; the step
consumes the set_data inputs and the due part of the buffer, and leaves the other simulators alone -/
theorem begin_consumes_inputs (cfg : Cfg) (s : State) (p : Sid) (c : TT) :
    (getInputData cfg s p c).1 = stepInputs cfg s p c ∧
    ((getInputData cfg s p c).2.sims p).setData = [] ∧
    ((getInputData cfg s p c).2.sims p).buffer = (s.sims p).buffer.filter (fun e => !(e.time ≤ TT.time c)) ∧
    (∀ q, q ≠ p → (getInputData cfg s p c).2.sims q = s.sims q) := by
  rw [getInputData_snd, State.upd_same]
  exact ⟨rfl, rfl, rfl, fun q hq => State.upd_other _ _ hq⟩

/-- persistent memory: only keys that exist are updated, with the value the step received -/
theorem persistent_only_existing_keys (cfg : Cfg) (s : State) (p : Sid) (c : TT) :
    ((getInputData cfg s p c).2.sims p).persistent.map (·.1) = (s.sims p).persistent.map (·.1) := by
  unfold getInputData
  simp only [State.upd_same, List.map_map]
  apply List.map_congr_left
  intro e _
  simp only [Function.comp]
  split <;> rfl

/-! ### whole runs, flat configurations (`Sched/Buffer.lean`) -/

/-- nothing arrives too late: buffered values are due after every step the destination has begun -/
theorem no_late_arrival {cfg : Cfg} (hw : WFCfg cfg) (hs : WFShape cfg) {rank : Sid → Nat} (hfl : Flat cfg rank) (hpo : PushOk cfg)
    {s : State} (hr : Reach cfg s) (hnf : s.failed = none) {q : Sid} (hq : q < cfg.n) :
    ∀ e ∈ (s.sims q).buffer, ∀ b ∈ (s.sims q).begun, TT.time b < e.time :=
  reach_bufOk hw hs hfl hpo hr hnf q hq

/-- the step that takes a buffered value is the destination's first step at or after the value's due time, and
what it leaves in the buffer is not yet due -/
theorem taken_at_first_due_step {cfg : Cfg} (hw : WFCfg cfg) (hs : WFShape cfg) {rank : Sid → Nat} (hfl : Flat cfg rank)
    (hpo : PushOk cfg) {s s' : State} {q : Sid} (hr : Reach cfg s) (hnf0 : s.failed = none) (hq : q < cfg.n)
    (h : step cfg s (.deps q) = some s') (hnf : s'.failed = none) :
    ∃ c, (s'.sims q).cur = some c ∧
      (∀ e ∈ (s.sims q).buffer, e.time ≤ TT.time c → ∀ b ∈ (s.sims q).begun, TT.time b < e.time) ∧
      (∀ e ∈ (s'.sims q).buffer, TT.time c < e.time) := by
  obtain ⟨c, _, hbeg, hcur⟩ := deps_begins hw (reach_good hw hr) h hnf
  refine ⟨c, hcur, fun e he _ b hb => reach_bufOk hw hs hfl hpo hr hnf0 q hq e he b hb, fun e he => ?_⟩
  exact reach_bufOk hw hs hfl hpo (Reach.step hr h) hnf q hq e he c (by rw [hbeg]; exact List.mem_cons_self)

/-! ### cache pruning (`Sched/Prune.lean`; `prune_dataflow_cache` as repaired, fix D8) -/

/-- pruning a cache in time order (`Sorted`) does not change what a consumer can still read -/
theorem prune_keeps_pulled (cfg : Cfg) (s : State) {q d : Sid} (hq : q < cfg.n) (hd : d < cfg.n)
    {e : Sid × TI × Port × Port} (he : e ∈ (cfg.sim d).pulled) (heq : e.1 = q) (hsorted : Sorted (s.sims q).outputs)
    (c : Int) (hc : lastTime s d ≤ c) :
    getOutputFor ((prune cfg s).sims q).outputs (c - (tier e.2.1.tiers 0 : Int)) =
    getOutputFor (s.sims q).outputs (c - (tier e.2.1.tiers 0 : Int)) :=
  prune_state_lookups cfg s hq hd he heq hsorted c hc

/-- non-vacuity and the defect the repair removed: with entries at 0, 2, 5 and `needed = 3` the entry at 2 is kept
(a step at 4 still reads it); dropping everything older than 3 would lose it -/
example : (pruneList [(0, []), (2, [((0, 0), some 7)]), (5, [])] 3).map (·.1) = [2, 5] := by decide +kernel
example : getOutputFor (pruneList [(0, []), (2, [((0, 0), some 7)]), (5, [])] 3) 4 = [((0, 0), some 7)] := by decide +kernel
example : getOutputFor ([(0, []), (2, [((0, 0), some 7)]), (5, [])].filter (fun (e : Int × OutData) => decide (e.1 ≥ 3))) 4 = [] := by decide +kernel

/-! ### provenance, all configurations (`Sched/BufferSrc.lean`; the fold of `bufferTake`: `fold_set_get`, `Sched/PushRef.lean`) -/

/-- nothing invented, nothing attributed to another source: where buffered values come from -/
theorem buffered_values_are_outputs {cfg : Cfg} {s s' : State} {a : Action} (h : step cfg s a = some s') (q : Sid) :
    ∀ e ∈ (s'.sims q).buffer, e ∈ (s.sims q).buffer ∨
      ∃ p d c, a = .dataReply p d ∧ (s.sims p).cur = some c ∧ PushedBy cfg p q (outTimeOf c d).1 d e :=
  step_buffer_sources h q

/-- the value a step receives under a key was there before the buffer was consulted, or is the value of a due buffer
entry with that key -/
theorem input_from_buffer_or_before (buf : List BufEntry) (step : Nat) (inp : InputData) (k : InKey) :
    InputData.get? (bufferTake buf step inp).1 k = InputData.get? inp k ∨
    ∃ e ∈ buf, e.time ≤ step ∧ e.key = k ∧ InputData.get? (bufferTake buf step inp).1 k = some e.val := by
  rw [buffer_taken, fold_set_get]
  cases h : (keyView k (buf.filter (·.time ≤ step))).getLast? with
  | none => exact Or.inl rfl
  | some x =>
    obtain ⟨e, he, hk, rfl⟩ := mem_keyView.mp (List.mem_of_getLast? h)
    rw [List.mem_filter, decide_eq_true_eq] at he
    exact Or.inr ⟨e, he.1, he.2, hk, rfl⟩

/-! ### cache path: whole runs refine the output history (`Sched/CacheRef.lean`)

The history of a source is its never-pruned cache (`histOf`).  Hypotheses (that file names the findings they exclude):
`PullOk` (it includes `shape`: cutoff 1 and one tier; the proof reads `range` only), initial cache in key order (`InitSorted`), output
times that do not go back (`MonoAct`, `ReachM`). -/

/-- with the cache on, what a step pulls over its cached connections is read from the history of the sources: the newest output
at or before (step time − shift) -/
theorem pull_refines_spec {cfg : Cfg} (hw : WFCfg cfg) (hc : cfg.useCache = true) (hi : InitSorted cfg) (hp : PullOk cfg) {s : State}
    (hr : ReachM cfg s) (hnf : s.failed = none) {p : Sid} (hpn : p < cfg.n) (c : TT) (hlast : lastTime s p ≤ (TT.time c : Int))
    (inp : InputData) :
    pullInputs cfg s p c inp = pullSpec cfg (fun q => histOf cfg q s.log) p c inp :=
  Mosaik.pull_refines_spec hw hc hi hp hr hnf hpn c hlast inp

/-- … and that is what the step request carries -/
theorem begin_pulls_history {cfg : Cfg} (hw : WFCfg cfg) (hc : cfg.useCache = true) (hi : InitSorted cfg) (hp : PullOk cfg)
    {s s' : State} (hr : ReachM cfg s) (hnf0 : s.failed = none) {p : Sid} (h : step cfg s (.deps p) = some s') (hnf : s'.failed = none) :
    ∃ c inp0 m, s'.log = .begin p c (pullSpec cfg (fun q => histOf cfg q s.log) p c inp0) m :: s.log :=
  Mosaik.begin_pulls_history hw hc hi hp hr hnf0 h hnf

/-- the history lookup is the entry with the greatest output time at or before `τ` (`{}` if there is none) -/
theorem hist_lookup_newest {cfg : Cfg} (hw : WFCfg cfg) (hc : cfg.useCache = true) (hi : InitSorted cfg) {s : State}
    (hr : ReachM cfg s) (hnf : s.failed = none) (q : Sid) (τ : Int) :
    (∃ e ∈ histOf cfg q s.log, e.1 ≤ τ ∧ (∀ e' ∈ histOf cfg q s.log, e'.1 ≤ τ → e'.1 ≤ e.1) ∧ getOutputFor (histOf cfg q s.log) τ = e.2) ∨
    ((∀ e ∈ histOf cfg q s.log, ¬ e.1 ≤ τ) ∧ getOutputFor (histOf cfg q s.log) τ = []) :=
  Mosaik.hist_lookup_newest hw hc hi hr hnf q τ

/-- the real cache agrees with the history on every lookup a consumer can still make (the invariant) -/
theorem cache_agrees_with_history {cfg : Cfg} (hw : WFCfg cfg) (hc : cfg.useCache = true) (hi : InitSorted cfg) {s : State}
    (hr : ReachM cfg s) (hnf : s.failed = none) {q : Sid} (hq : q < cfg.n) (τ : Int) (hτ : minLast cfg s - maxShift cfg q ≤ τ) :
    getOutputFor (s.sims q).outputs τ = getOutputFor (histOf cfg q s.log) τ :=
  (reachM_cacheRef hw hc hi hr hnf).look q hq τ hτ

/-! ### push path: whole runs refine the output history (flat configurations, `Sched/PushRef.lean`; all connections when `cache=False`)

Hypotheses as at the head of that file: those of `no_late_arrival` (evaluated by the driver's `wf`/`wfx`), `hpull`, `hkey`, and
`ReachP` (executable form `runPB`; the asynchronous `set_data` it excludes is C16's). -/

/-- the buffered values of a pushed connection are exactly the produced values not yet due at the destination's last step,
in production order -/
theorem push_buffer_is_pending_history {cfg : Cfg} (h1 : cfg.wfB = true) (h2 : cfg.shapeB = true) (h3 : cfg.flatB cfg.zeroRank = true)
    (h4 : cfg.pushB = true) {src q : Sid} {pe : Port × Sid × TI × Port} (hq : q < cfg.n)
    (hkey : (cfg.sim src).push.filter (hits q (keyOf src pe) src) = [pe]) (hpull : (cfg.sim q).pulled = [])
    {s : State} (hr : ReachP cfg s) (hnf : s.failed = none) :
    keyView (keyOf src pe) (s.sims q).buffer = (chist src pe s.log).filter (fun x => after (lastBegun (s.sims q)) x.1) :=
  (reachP_pushRef (wfB_sound h1) (shapeB_sound h2) (flatB_sound h3) (pushB_sound h4) hq hkey hpull hr hnf).buf

/-- the remembered value of a persistent pushed connection is the last produced value due at the destination's last step -/
theorem push_persistent_is_latest {cfg : Cfg} (h1 : cfg.wfB = true) (h2 : cfg.shapeB = true) (h3 : cfg.flatB cfg.zeroRank = true)
    (h4 : cfg.pushB = true) {src q : Sid} {pe : Port × Sid × TI × Port} (hq : q < cfg.n)
    (hkey : (cfg.sim src).push.filter (hits q (keyOf src pe) src) = [pe]) (hpull : (cfg.sim q).pulled = [])
    {s : State} (hr : ReachP cfg s) (hnf : s.failed = none) (d0 : Val)
    (hd0 : InputData.get? (cfg.sim q).persistent0 (keyOf src pe) = some d0) :
    InputData.get? (s.sims q).persistent (keyOf src pe) =
      some (lastVal ((chist src pe s.log).filter (fun x => !after (lastBegun (s.sims q)) x.1)) d0) :=
  (reachP_pushRef (wfB_sound h1) (shapeB_sound h2) (flatB_sound h3) (pushB_sound h4) hq hkey hpull hr hnf).pers d0 hd0

/-- the step request for time `c` carries, under the connection's key, the last value produced on the connection that
became due since the previous step, else the remembered value; for a persistent connection that is the last produced value
due at or before `c` (the declared initial value before there is one) -/
theorem begin_push_refines_spec {cfg : Cfg} (h1 : cfg.wfB = true) (h2 : cfg.shapeB = true) (h3 : cfg.flatB cfg.zeroRank = true)
    (h4 : cfg.pushB = true) {src q : Sid} {pe : Port × Sid × TI × Port} (hq : q < cfg.n)
    (hkey : (cfg.sim src).push.filter (hits q (keyOf src pe) src) = [pe]) (hpull : (cfg.sim q).pulled = [])
    {s s' : State} (hr : ReachP cfg s) (hnf0 : s.failed = none) (h : step cfg s (.deps q) = some s') (hnf : s'.failed = none) :
    ∃ c inp m, s'.log = .begin q c inp m :: s.log ∧
      InputData.get? inp (keyOf src pe) =
        (match ((chist src pe s.log).filter (fun x => after (lastBegun (s.sims q)) x.1 && decide (x.1 ≤ TT.time c))).getLast? with
          | some x => some x.2
          | none => InputData.get? (s.sims q).persistent (keyOf src pe)) ∧
      ∀ d0, InputData.get? (cfg.sim q).persistent0 (keyOf src pe) = some d0 →
        InputData.get? inp (keyOf src pe) = some (lastVal ((chist src pe s.log).filter (fun x => decide (x.1 ≤ TT.time c))) d0) :=
  Mosaik.begin_push_refines_spec (wfB_sound h1) (shapeB_sound h2) (flatB_sound h3) (pushB_sound h4) hq hkey hpull hr hnf0 h hnf

/-! non-vacuity: a producer A pushing a persistent value to a consumer B (`cache=False`).  The configuration meets the
executable hypotheses, the run is a `ReachP` run, B's next step is enabled, and the spec value for its time is A's output 7
(the declared initial value 99 is superseded). -/
def pushedCfg : Cfg :=
  { sims := [ { ty := .timeBased, next0 := [[0]], outReq := [(0, 0)], succs := [(1, ⟨1, 1, [0]⟩)],
                push := [((0, 0), 1, ⟨1, 1, [0]⟩, (0, 0))] },
              { ty := .timeBased, next0 := [[0]], inputDelays := [(0, ⟨1, 1, [0]⟩)], persistent0 := [(⟨0, 0, 0, 0⟩, some 99)] } ],
    until_ := 2, lazy_ := false, useCache := false }

def pushedRun : List Action :=
  [.start 0, .start 1, .deps 0, .stepReply 0 (.int 1), .dataReply 0 { data := [((0, 0), some 7)] }]

example : pushedCfg.wfB = true ∧ pushedCfg.shapeB = true ∧ pushedCfg.flatB pushedCfg.zeroRank = true ∧ pushedCfg.pushB = true ∧
    (pushedCfg.sim 0).push.filter (hits 1 (keyOf 0 ((0, 0), 1, ⟨1, 1, [0]⟩, (0, 0))) 0) = [((0, 0), 1, ⟨1, 1, [0]⟩, (0, 0))] ∧
    (pushedCfg.sim 1).pulled = [] ∧
    InputData.get? (pushedCfg.sim 1).persistent0 (keyOf 0 ((0, 0), 1, ⟨1, 1, [0]⟩, (0, 0))) = some (some 99) := by decide +kernel

example : ∃ s, ReachP pushedCfg s ∧ s.failed = none ∧ (step pushedCfg s (.deps 1)).isSome = true ∧
    lastVal ((chist 0 ((0, 0), 1, ⟨1, 1, [0]⟩, (0, 0)) s.log).filter (fun x => decide (x.1 ≤ 0))) (some 99) = some 7 := by
  have hall : ((exec pushedCfg (initState pushedCfg) pushedRun).map fun s =>
      s.failed.isNone && (step pushedCfg s (.deps 1)).isSome &&
        (lastVal ((chist 0 ((0, 0), 1, ⟨1, 1, [0]⟩, (0, 0)) s.log).filter (fun x => decide (x.1 ≤ 0))) (some 99) == some 7)) = some true := by
    decide +kernel
  obtain ⟨s, hs, hall⟩ := Option.map_eq_some_iff.mp hall
  refine ⟨s, exec_reachP pushedRun ReachP.init hs (by decide +kernel), ?_⟩
  simp only [Bool.and_eq_true, beq_iff_eq, Option.isNone_iff_eq_none] at hall
  exact ⟨hall.1.1, hall.1.2, hall.2⟩

/-! non-vacuity: a producer A and a consumer B over one cached connection (`cache=True`).  The configuration meets the
hypotheses, the run below is a `ReachM` run, and the step of B it enables pulls A's output 7 — the history's value. -/
def cachedCfg : Cfg :=
  { sims := [ { ty := .timeBased, next0 := [[0]], outReq := [(0, 0)], succs := [(1, ⟨1, 1, [0]⟩)] },
              { ty := .timeBased, next0 := [[0]], inputDelays := [(0, ⟨1, 1, [0]⟩)], pulled := [(0, ⟨1, 1, [0]⟩, (0, 0), (0, 0))] } ],
    until_ := 2, lazy_ := false, useCache := true }

def cachedRun : List Action :=
  [.start 0, .start 1, .deps 0, .stepReply 0 (.int 1), .dataReply 0 { data := [((0, 0), some 7)] }]

example : cachedCfg.wfB = true ∧ cachedCfg.pullB = true ∧ cachedCfg.useCache = true := by decide +kernel

example : InitSorted cachedCfg := fun q =>
  match q with
  | 0 | 1 | _ + 2 => List.Pairwise.nil

example : ∃ s, ReachM cachedCfg s ∧ s.failed = none ∧ (step cachedCfg s (.deps 1)).isSome = true ∧
    pullInputs cachedCfg s 1 [0] [] = [(⟨0, 0, 0, 0⟩, some 7)] ∧
    pullSpec cachedCfg (fun q => histOf cachedCfg q s.log) 1 [0] [] = [(⟨0, 0, 0, 0⟩, some 7)] := by
  have hall : ((exec cachedCfg (initState cachedCfg) cachedRun).map fun s =>
      s.failed.isNone && (step cachedCfg s (.deps 1)).isSome && (pullInputs cachedCfg s 1 [0] [] == [(⟨0, 0, 0, 0⟩, some 7)]) &&
        (pullSpec cachedCfg (fun q => histOf cachedCfg q s.log) 1 [0] [] == [(⟨0, 0, 0, 0⟩, some 7)])) = some true := by decide +kernel
  obtain ⟨s, hs, hall⟩ := Option.map_eq_some_iff.mp hall
  refine ⟨s, exec_reachM cachedRun ReachM.init hs (by decide +kernel), ?_⟩
  simp only [Bool.and_eq_true, beq_iff_eq, Option.isNone_iff_eq_none] at hall
  exact ⟨hall.1.1.1, hall.1.1.2, hall.1.2, hall.2⟩

/-- `begin_pulls_history` for every scenario without groups built by valid calls: the static hypotheses `WFCfg` and `PullOk`
are theorems about scenario building; what remains are `InitSorted` and `ReachM`, the complements of two recorded findings -/
theorem begin_pulls_history_built {ops : List Build.Op} (hv : Build.Valid {} ops) (hf : Build.flatOps ops = true)
    {orc : List Nat} {out : List SimCfg} (hc : cacheTriggeringAncestors (Build.build ops).sims orc = .ok out)
    (until_ maxLoop : Nat) (lazy_ strict : Bool) (hi : InitSorted (Build.runCfg out until_ maxLoop lazy_ true strict))
    {s s' : State} (hr : ReachM (Build.runCfg out until_ maxLoop lazy_ true strict) s) (hnf0 : s.failed = none) {p : Sid}
    (h : step (Build.runCfg out until_ maxLoop lazy_ true strict) s (.deps p) = some s') (hnf : s'.failed = none) :
    ∃ c inp0 m, s'.log = .begin p c (pullSpec (Build.runCfg out until_ maxLoop lazy_ true strict)
      (fun q => histOf (Build.runCfg out until_ maxLoop lazy_ true strict) q s.log) p c inp0) m :: s.log :=
  begin_pulls_history (Build.run_config_dataflow_flat hv hf hc until_ maxLoop lazy_ true strict).1 rfl hi
    (Build.run_config_dataflow_flat hv hf hc until_ maxLoop lazy_ true strict).2.2.2 hr hnf0 h hnf

end Mosaik.C03
