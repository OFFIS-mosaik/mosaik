/-
C08  Order-consistent delay arithmetic for grouped (tiered) time.

All statements are about the model of mosaik/tiered_time.py (`TI.lt?`, `TI.add?`, `TI.act?`, the
operators `functools.total_ordering` derives, `update_min`, `min`), for delays and times of every
shape and length and unbounded tier values.  "Comparable" = same length, pre-length and cutoff
(`SameShape`, with its lemmas in `Lemmas/Tiered.lean`); for operands of different cutoff see `Findings.lean` (finding C08-mixed-cutoff).
-/
import MosaikProofs.Lemmas.Tiered
namespace Mosaik.C08
open Mosaik TI

/-- on operands of the same shape `<` never asserts and is the lexicographic order of the tiers -/
theorem lt_same_shape {a b : TI} (h : SameShape a b) : lt? a b = some (decide (a.tiers < b.tiers)) := by
  rw [lt?, if_pos ⟨h.length, h.pre⟩, h.cutoff]
  exact ltLoop_same_cutoff _ _ _ _ h.length

theorem lt_irrefl (a : TI) : lt? a a = some false := by
  rw [lt_same_shape (.refl a), decide_eq_false (TT.lt_irrefl _)]

/-- exactly one of `<`, `=`, `>` holds for comparable delays -/
theorem trichotomy {a b : TI} (h : SameShape a b) :
    (lt? a b = some true ∧ a ≠ b ∧ lt? b a = some false) ∨
    (lt? a b = some false ∧ a = b ∧ lt? b a = some false) ∨
    (lt? a b = some false ∧ a ≠ b ∧ lt? b a = some true) := by
  -- read through `lt_same_shape`, this is trichotomy of the lexicographic order on the tiers
  simp only [lt_same_shape h, lt_same_shape h.symm, h.eq_iff, Option.some.injEq, decide_eq_true_eq,
    decide_eq_false_iff_not, ne_eq]
  rcases TT.lt_or_ge a.tiers b.tiers with h1 | h1
  · exact .inl ⟨h1, fun e => TT.lt_irrefl _ (e ▸ h1), TT.not_lt.mpr (TT.le_of_lt h1)⟩
  · rcases TT.le_iff_lt_or_eq.mp h1 with h2 | h2
    · exact .inr (.inr ⟨TT.not_lt.mpr h1, fun e => TT.lt_irrefl _ (e ▸ h2), h2⟩)
    · exact .inr (.inl ⟨TT.not_lt.mpr h1, h2.symm, h2 ▸ TT.lt_irrefl _⟩)

theorem lt_trans {a b c : TI} (hab : SameShape a b) (hbc : SameShape b c)
    (h1 : lt? a b = some true) (h2 : lt? b c = some true) : lt? a c = some true := by
  simp only [lt_same_shape hab, lt_same_shape hbc, lt_same_shape (hab.trans hbc), Option.some.injEq,
    decide_eq_true_eq] at h1 h2 ⊢
  exact TT.lt_trans h1 h2

/-- asymmetric, for operands of any cutoffs: if `a < b` then `b < a` is (defined and) false -/
theorem lt_asymm {a b : TI} (h : lt? a b = some true) : lt? b a = some false := by
  unfold lt? at h ⊢
  split at h
  · rename_i hs
    simp only [hs.1.symm, hs.2.symm, and_self, if_true]
    exact ltLoop_asymm _ _ _ _ _ h
  · simp at h

/-- the derived operators (`functools.total_ordering`) on comparable delays -/
theorem le_same_shape {a b : TI} (h : SameShape a b) : le? a b = some (decide (a.tiers ≤ b.tiers)) := by
  rw [le?, lt_same_shape h, Option.map_some, Option.some.injEq, Bool.eq_iff_iff]
  simp [h.eq_iff, TT.le_iff_lt_or_eq]

theorem ge_same_shape {a b : TI} (h : SameShape a b) : ge? a b = some (decide (b.tiers ≤ a.tiers)) := by
  rw [ge?, lt_same_shape h, Option.map_some, Option.some.injEq, Bool.eq_iff_iff]
  simp only [Bool.not_eq_true', decide_eq_false_iff_not, decide_eq_true_eq, TT.not_lt]

theorem gt_same_shape {a b : TI} (h : SameShape a b) : gt? a b = some (decide (b.tiers < a.tiers)) := by
  rw [gt?, lt_same_shape h, Option.map_some, Option.some.injEq, Bool.eq_iff_iff]
  simp only [Bool.and_eq_true, Bool.not_eq_true', decide_eq_false_iff_not, bne_iff_ne, ne_eq, h.eq_iff, decide_eq_true_eq]
  exact ⟨fun ⟨h1, h2⟩ => (TT.le_iff_lt_or_eq.mp (TT.not_lt.mp h1)).resolve_right (Ne.symm h2),
    fun h1 => ⟨TT.not_lt.mpr (TT.le_of_lt h1), fun e => TT.lt_irrefl _ (e ▸ h1)⟩⟩

/-- on delays of one shape, `<` and `≤` are the orders `TI.lt` and `TI.le` -/
theorem lt_iff {a b : TI} (h : SameShape a b) : lt? a b = some true ↔ TI.lt a b := by
  simp [lt_same_shape h, TI.lt, h.length, h.pre, h.cutoff]

theorem le_iff {a b : TI} (h : SameShape a b) : le? a b = some true ↔ TI.le a b := by
  simp [le_same_shape h, TI.le, h.length, h.pre, h.cutoff]

/-- a smaller delay never yields a later arrival time, for any departure time (strictly earlier, in fact) -/
theorem arrival_mono {a b : TI} (h : SameShape a b) (hlt : lt? a b = some true) (t : TT) :
    act t a < act t b :=
  act_strict_mono_right t ((lt_iff h).mp hlt)

theorem arrival_mono_le {a b : TI} (h : SameShape a b) (hle : le? a b = some true) (t : TT) :
    act t a ≤ act t b :=
  act_mono_right t ((le_iff h).mp hle)

/-- a later departure never yields an earlier arrival -/
theorem departure_mono (d : TI) {t t' : TT} (h : t ≤ t') : act t d ≤ act t' d := act_mono_left d h

/-- adding a delay never moves (world) time backwards, nor any tier that is kept -/
theorem never_backwards_tier (t : TT) (d : TI) (h : d.WF) (i : Nat) (hi : i < d.cutoff) :
    tier t i ≤ tier (act t d) i := by
  rw [act, tier_addTiers_lt hi (Nat.lt_of_lt_of_le hi h.2.2)]
  exact Nat.le_add_right _ _

theorem never_backwards (t : TT) (d : TI) (h : d.WF) : TT.time t ≤ TT.time (act t d) :=
  never_backwards_tier t d h 0 h.1

/-- combining delays along a path is associative (with the asserts of `+`) -/
theorem add_assoc {a b c ab bc : TI} (hc : c.WF) (h1 : add? a b = some ab) (h2 : add? b c = some bc) :
    add? ab c = add? a bc ∧ (add? ab c).isSome := by
  obtain ⟨hab, rfl⟩ := add?_eq_some_iff.mp h1
  obtain ⟨hbc, rfl⟩ := add?_eq_some_iff.mp h2
  have hcc : c.cutoff ≤ b.tiers.length := hbc ▸ hc.2.1
  simp [add?, hab, hbc, TI.add_assoc a b c hcc]

/-- … and agrees with applying the delays one after the other -/
theorem act_act {t u : TT} {a b ab : TI} (hb : b.WF) (h1 : act? t a = some u) (h2 : add? a b = some ab) :
    act? u b = act? t ab ∧ (act? u b).isSome := by
  obtain ⟨ht, rfl⟩ := act?_eq_some_iff.mp h1
  obtain ⟨hab, rfl⟩ := add?_eq_some_iff.mp h2
  have hbc : b.cutoff ≤ a.tiers.length := hab ▸ hb.2.1
  simp [act?, ht, hab, TI.act_act t a b hbc]

/-- the sum of well-formed delays is well-formed -/
theorem add_wf {a b : TI} (ha : a.WF) (hb : b.WF) : (add a b).WF :=
  ⟨Nat.le_min.mpr ⟨ha.1, hb.1⟩, Nat.le_trans (Nat.min_le_left ..) ha.2.1,
    Nat.le_trans (Nat.min_le_right ..) (by rw [add_length]; exact hb.2.2)⟩

/-- adding on either side preserves the order of comparable delays -/
theorem add_mono_right' (c : TI) {a b : TI} (h : SameShape a b) (hle : le? a b = some true) :
    le? (add c a) (add c b) = some true :=
  have := TI.add_mono_right c ((le_iff h).mp hle)
  (le_iff (.of_le this)).mpr this

theorem add_mono_left' (c : TI) {a b : TI} (h : SameShape a b) (hle : le? a b = some true) :
    le? (add a c) (add b c) = some true :=
  have := TI.add_mono_left c ((le_iff h).mp hle)
  (le_iff (.of_le this)).mpr this

/-- `update_min(a, b)` replaces `a` by `b` exactly when `b` is strictly smaller -/
theorem update_min_spec {a b : TI} (h : SameShape a b) :
    updateMin? (some a) b = some (if b.tiers < a.tiers then some b else none) := by
  simp only [updateMin?, le_same_shape h, ← TT.not_lt]
  by_cases h1 : b.tiers < a.tiers <;> simp [h1]

/-- builtin `min` returns one of its arguments, and a lower bound of both -/
theorem min_spec {x y : TI} (h : SameShape x y) :
    ∃ m, min2? x y = some m ∧ (m = x ∨ m = y) ∧ m.tiers ≤ x.tiers ∧ m.tiers ≤ y.tiers := by
  rw [min2?, lt_same_shape h.symm]
  by_cases h1 : y.tiers < x.tiers
  · exact ⟨y, by simp [h1], Or.inr rfl, TT.le_of_lt h1, TT.le_refl _⟩
  · exact ⟨x, by simp [h1], Or.inl rfl, TT.le_refl _, TT.not_lt.mp h1⟩

/-! non-vacuity: concrete comparable delays meet the hypotheses -/
example : SameShape ⟨2, 2, [1, 5]⟩ ⟨2, 2, [2, 0]⟩ ∧ lt? ⟨2, 2, [1, 5]⟩ ⟨2, 2, [2, 0]⟩ = some true
    ∧ lt? ⟨2, 2, [2, 0]⟩ ⟨2, 2, [1, 5]⟩ = some false := by decide +kernel
example : (⟨1, 1, [1, 0]⟩ : TI).WF ∧ add? ⟨1, 1, [0]⟩ ⟨1, 1, [1, 0]⟩ = some ⟨1, 1, [1, 0]⟩
    ∧ act? [3] ⟨1, 1, [1, 0]⟩ = some [4, 0] := by decide +kernel

end Mosaik.C08
