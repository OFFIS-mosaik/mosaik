/-
C05  Completion: no deadlock and no internal scheduling error.

All configurations satisfying `WFCfg`, all behaviours and interleavings, lazy stepping and cache on or off: a run never fails
with an internal consistency error — progress moving backwards, a step scheduled in a simulator's past
(`no_internal_error_partial`).  The third internal error of the property, "incomparable delays", can only arise in the closures
before the first step (C06, finding D7).
With `WFShape`: `finitely_many_steps`, `terminates` — a run of `Action.sched` actions (no asynchronous request, no tick) is
bounded, with or without groups.
Flat configurations (`Flat`: one-tier times, delays that are numbers of time steps, and a ranking of the simulators along the
zero-delay connections, i.e. no data-flow cycle without a time shift): `deadlock_free_flat`, `finished_when_stuck_flat`.
Together: every such run of a flat configuration with answering simulators ends, after boundedly many actions, with every
process ended.
NOT proved: deadlock freedom for grouped (tiered) configurations; those are covered by the correspondence runs and the
implementation monitor (deadlock = idle event loop with unfinished `run()`) only.
-/
import MosaikProofs.Sched.WFLive
import MosaikProofs.Sched.Terminate
import MosaikProofs.Properties.C01
import MosaikProofs.Build.FlatRank
namespace Mosaik.C05
open Mosaik

/-- the internal consistency errors -/
def Internal : SchedErr → Prop
  | .progressBackwards _ => True
  | .stepInPast _ => True
  | _ => False

/-- no reachable state has failed with an internal error -/
theorem no_internal_error_partial {cfg : Cfg} (hw : WFCfg cfg) {s : State} (hr : Reach cfg s) :
    ∀ e, s.failed = some e → ¬ Internal e := by
  intro e he hint
  cases hr with
  | init => cases he
  | step hr hstep =>
    have hcause := step_err hw (reach_good hw hr) hstep e he
    cases e with
    | progressBackwards | stepInPast => exact hcause
    | loop | badReply | asyncRefused | eventNotRt | rtTooSlow => exact hint

/-- "cannot progress backwards" never fires: `advance_progress` of any simulator, evaluated in any reachable state, yields a
value that is not below the current progress -/
theorem progress_never_backwards {cfg : Cfg} (hw : WFCfg cfg) {s : State} (hr : Reach cfg s) (hnf : s.failed = none)
    (q : Sid) (hq : q < cfg.n) : (advance cfg s q).failed = none ∧ (s.sims q).progress ≤ ((advance cfg s q).sims q).progress := by
  obtain ⟨hc, hpcs⟩ := reach_good hw hr hnf
  exact ⟨(advance_good hw hnf hc (hpcs.but cfg.n) hq).1, advance_progress_le cfg s q q⟩

/-- "step in the past" is unreachable: the step in flight is at the simulator's progress and the scheduled steps are never
behind it -/
theorem steps_never_in_past {cfg : Cfg} (hw : WFCfg cfg) {s : State} (hr : Reach cfg s) (hnf : s.failed = none)
    (q : Sid) (hq : q < cfg.n) :
    (∀ t ∈ (s.sims q).next, (s.sims q).progress ≤ t) ∧ (∀ c, (s.sims q).cur = some c → (s.sims q).progress = c) :=
  ⟨((reach_good hw hr hnf).1 q hq).le_next, ((reach_good hw hr hnf).1 q hq).cur_eq⟩

/-- progress never exceeds the end of the simulation, so no simulator waits for a time beyond it -/
theorem progress_le_end {cfg : Cfg} (hw : WFCfg cfg) {s : State} (hr : Reach cfg s) (hnf : s.failed = none)
    (q : Sid) (hq : q < cfg.n) : (s.sims q).progress ≤ cfg.endT q :=
  ((reach_good hw hr hnf).1 q hq).le_end

/-- the time a simulator awaits in `next_step_settled` is never beyond the end (events announced for times after the end
cannot block it) -/
theorem await_le_end {cfg : Cfg} (s : State) (p : Sid) (a : TT) (dl : Option Nat)
    (h : ((settle cfg s p).sims p).pc = .awaitSettle a dl) : a ≤ cfg.endT p := by
  rw [settle_same] at h
  change settlePc cfg s p = _ at h
  rcases settlePc_cases cfg s p with ⟨_, e⟩ | ⟨_, _, e⟩ | ⟨_, _, e⟩
  · rw [e] at h; cases h
  · rw [e] at h; cases h
  · rw [e] at h; cases h
    exact awaitTarget_le_end cfg s p

/-- a simulator of group depth `d` has begun at most `until * max_loop_iterations ^ (d - 1)` steps (`Sched/Bound.lean`) -/
theorem finitely_many_steps {cfg : Cfg} (hw : WFCfg cfg) (hs : WFShape cfg) {s : State} (hr : Reach cfg s) (hnf : s.failed = none)
    (p : Sid) (hp : p < cfg.n) : (s.sims p).begun.length ≤ cfg.until_ * cfg.maxLoop ^ ((cfg.sim p).depth - 1) :=
  steps_bounded hw hs hr hnf p hp

/-- a run from the initial state that has not failed and contains no asynchronous request has at most `runBound cfg` actions
(`Sched/Terminate.lean`: a potential that every such action strictly decreases) -/
theorem terminates {cfg : Cfg} (hw : WFCfg cfg) (hs : WFShape cfg) (as : List Action) {s : State}
    (he : exec cfg (initState cfg) as = some s) (hnf : s.failed = none) (hsch : ∀ a ∈ as, a.sched) :
    as.length ≤ runBound cfg :=
  run_length_bounded hw hs as he hnf hsch

theorem every_action_decreases_potential {cfg : Cfg} (hw : WFCfg cfg) (hs : WFShape cfg) {s s' : State} {a : Action}
    (hr : Reach cfg s) (hnf0 : s.failed = none) (h : step cfg s a = some s') (hnf : s'.failed = none) (hsch : a.sched) :
    totalPotential cfg s' + 1 ≤ totalPotential cfg s :=
  potential_decreases hw hs hr hnf0 h hnf hsch

/-- Deadlock freedom, flat configurations: the scheduler never waits on a condition that cannot become true.  In every reachable
state that has not failed, as long as some simulator's process has not ended, a process can be started, woken or begin its step,
or a simulator is inside `step` / `get_data` (and will answer).  `Sched/Deadlock.lean`, on the invariants `reach_awaitOk`,
`reach_upToDate` and `reach_doneOk` (`Sched/Await.lean`, `Quiescent.lean`, `Done.lean`). -/
theorem deadlock_free_flat {cfg : Cfg} (hw : WFCfg cfg) (hs : WFShape cfg) {rank : Sid → Nat} (hfl : Flat cfg rank)
    {s : State} (hr : Reach cfg s) (hnf : s.failed = none) (hsome : ∃ p, p < cfg.n ∧ (s.sims p).pc ≠ .done) :
    (∃ p, (step cfg s (.start p)).isSome = true) ∨
    ((∃ p, (step cfg s (.wake p)).isSome = true) ∨ (∃ p, (step cfg s (.deps p)).isSome = true)) ∨
    (∃ p, p < cfg.n ∧ ((s.sims p).pc = .inStep ∨ (s.sims p).pc = .inGet)) :=
  Mosaik.deadlock_free_flat hw hs hfl hr hnf hsome

/-- in a flat configuration a reachable state in which nothing can move and no simulator owes an answer is one in which every
process has ended -/
theorem finished_when_stuck_flat {cfg : Cfg} (hw : WFCfg cfg) (hs : WFShape cfg) {rank : Sid → Nat} (hfl : Flat cfg rank)
    {s : State} (hr : Reach cfg s) (hnf : s.failed = none)
    (hstuck : ∀ p, (step cfg s (.start p)).isSome = false ∧ (step cfg s (.wake p)).isSome = false ∧
      (step cfg s (.deps p)).isSome = false)
    (hidle : ∀ p, p < cfg.n → (s.sims p).pc ≠ .inStep ∧ (s.sims p).pc ≠ .inGet) :
    ∀ p, p < cfg.n → (s.sims p).pc = .done := by
  intro p hp
  apply Classical.byContradiction
  intro hpc
  rcases Mosaik.deadlock_free_flat hw hs hfl hr hnf ⟨p, hp, hpc⟩ with ⟨q, hq⟩ | (⟨q, hq⟩ | ⟨q, hq⟩) | ⟨q, hq, hb⟩
  · rw [(hstuck q).1] at hq
    cases hq
  · rw [(hstuck q).2.1] at hq
    cases hq
  · rw [(hstuck q).2.2] at hq
    cases hq
  · exact hb.elim (hidle q hq).1 (hidle q hq).2

/-- a blocked simulator is held up by a strictly smaller one (the step of the descent) -/
theorem blocked_by_smaller {cfg : Cfg} (hw : WFCfg cfg) (hs : WFShape cfg) {rank : Sid → Nat} (hfl : Flat cfg rank)
    {s : State} (hr : Reach cfg s) (hnf : s.failed = none) (hidle : Idle cfg s)
    (hstarted : ∀ q, q < cfg.n → (s.sims q).pc ≠ .init) {q : Sid} (hq : q < cfg.n) (hnd : (s.sims q).pc ≠ .done) :
    Moves cfg s ∨ ∃ r, r < cfg.n ∧ (s.sims r).pc ≠ .done ∧ Before s rank r q :=
  blocked_or_moves hw hs hfl hr hnf hidle hstarted hq hnd

/-! non-vacuity: the two-simulator configuration A → B of C01 (trigger connection, lazy stepping off)
is flat with `rank = id`, and it has reachable quiescent states with unfinished simulators. -/
theorem exCfg_sim (p : Nat) : C01.exCfg.sim (p + 2) = {} := by
  simp [Cfg.sim, C01.exCfg]

example : WFShape C01.exCfg := shapeB_sound (by decide +kernel)

example : Flat C01.exCfg id :=
  (flatB_sound (rk := [0, 1]) (by decide +kernel)).rank_congr
    (fun p hp => match p, hp with
      | 0, _ => rfl
      | 1, _ => rfl
      | p + 2, h => absurd h (Nat.not_lt.mpr (Nat.le_add_left 2 p)))
    (wfB_sound (by decide +kernel)).ancRange

example : ((exec C01.exCfg (initState C01.exCfg) [.start 0, .start 1]).map fun s =>
    (s.failed.isNone, (s.sims 0).pc, (s.sims 1).pc, (step C01.exCfg s (.deps 0)).isSome))
    = some (true, .waitDeps [0], .awaitSettle [2] none, true) := by decide +kernel

/-- `deadlock_free_flat` with no hypothesis on the configuration: for every sequence of valid `start` / `connect` /
`set_initial_event` calls in the main group that `ensure_no_dataflow_cycles` accepts (whatever its pop order), the configuration
`World.run` derives satisfies `WFCfg`, `WFShape` and `Flat` (the ranking is the number of zero-delay ancestors, strictly increasing
along zero-delay connections because the cycle check accepted) -/
theorem deadlock_free_built_flat {ops : List Build.Op} (hv : Build.Valid {} ops) (hf : Build.flatOps ops = true) {orc : List Nat}
    (hacc : ensureNoCycles (Build.build ops).sims orc = .ok) {orc' : List Nat} {out : List SimCfg}
    (hc : cacheTriggeringAncestors (Build.build ops).sims orc' = .ok out) (until_ maxLoop : Nat) (lazy_ useCache strict : Bool)
    {s : State} (hr : Reach (Build.runCfg out until_ maxLoop lazy_ useCache strict) s) (hnf : s.failed = none)
    (hsome : ∃ p, p < (Build.runCfg out until_ maxLoop lazy_ useCache strict).n ∧ (s.sims p).pc ≠ .done) :
    (∃ p, (step (Build.runCfg out until_ maxLoop lazy_ useCache strict) s (.start p)).isSome = true) ∨
    ((∃ p, (step (Build.runCfg out until_ maxLoop lazy_ useCache strict) s (.wake p)).isSome = true) ∨
     (∃ p, (step (Build.runCfg out until_ maxLoop lazy_ useCache strict) s (.deps p)).isSome = true)) ∨
    (∃ p, p < (Build.runCfg out until_ maxLoop lazy_ useCache strict).n ∧ ((s.sims p).pc = .inStep ∨ (s.sims p).pc = .inGet)) :=
  deadlock_free_flat (Build.run_config_wf_flat hv hf hc rfl rfl)
    (Build.run_config_wfShape hv (Build.flat_uniformT (Build.built_ok hv) (Build.flatWorld_of_ops hv hf))
      hc until_ maxLoop lazy_ useCache strict)
    (Build.run_config_flat hv hf hacc hc until_ maxLoop lazy_ useCache strict) hr hnf hsome

/-- non-vacuity: a flat scenario built by calls (A time-based → B hybrid, trigger connection) is accepted by the cycle check -/
example :
    let ops : List Build.Op :=
      [ .start { ty := .timeBased, group := [], cls := (parseAttrs { anyInputs := false, attrs := some [0, 1, 2, 3] } .timeBased).getD default },
        .start { ty := .hybrid, group := [], cls := (parseAttrs { anyInputs := false, attrs := some [0, 1, 2, 3], trigger := some [1], nonPersistent := some [3] } .hybrid).getD default },
        .connect { src := 0, seid := 0, dst := 1, deid := 0, pairs := [(2, 1)] } ]
    Build.flatOps ops = true ∧ ensureNoCycles (Build.build ops).sims [] = .ok ∧
      (cacheTriggeringAncestors (Build.build ops).sims []).toOption.isSome = true := by
  decide +kernel

/-- A run of a scenario without groups ends if it contains no asynchronous request or tick (`hsch`), and ends finished:
`terminates` and `finished_when_stuck_flat` with no hypothesis on the configuration, for every sequence of valid calls in the
main group that the cycle check accepts -/
theorem runs_end_finished_built_flat {ops : List Build.Op} (hv : Build.Valid {} ops) (hf : Build.flatOps ops = true) {orc : List Nat}
    (hacc : ensureNoCycles (Build.build ops).sims orc = .ok) {orc' : List Nat} {out : List SimCfg}
    (hc : cacheTriggeringAncestors (Build.build ops).sims orc' = .ok out) (until_ maxLoop : Nat) (lazy_ useCache strict : Bool)
    (as : List Action) {s : State}
    (he : exec (Build.runCfg out until_ maxLoop lazy_ useCache strict) (initState (Build.runCfg out until_ maxLoop lazy_ useCache strict)) as = some s)
    (hnf : s.failed = none) (hsch : ∀ a ∈ as, a.sched) :
    as.length ≤ runBound (Build.runCfg out until_ maxLoop lazy_ useCache strict) ∧
    ((∀ p, (step (Build.runCfg out until_ maxLoop lazy_ useCache strict) s (.start p)).isSome = false ∧
           (step (Build.runCfg out until_ maxLoop lazy_ useCache strict) s (.wake p)).isSome = false ∧
           (step (Build.runCfg out until_ maxLoop lazy_ useCache strict) s (.deps p)).isSome = false) →
     (∀ p, p < (Build.runCfg out until_ maxLoop lazy_ useCache strict).n → (s.sims p).pc ≠ .inStep ∧ (s.sims p).pc ≠ .inGet) →
     ∀ p, p < (Build.runCfg out until_ maxLoop lazy_ useCache strict).n → (s.sims p).pc = .done) := by
  have hw := Build.run_config_wf_flat hv hf hc (cfg := Build.runCfg out until_ maxLoop lazy_ useCache strict) rfl rfl
  have hs := Build.run_config_wfShape hv (Build.flat_uniformT (Build.built_ok hv) (Build.flatWorld_of_ops hv hf))
    hc until_ maxLoop lazy_ useCache strict
  have hfl := Build.run_config_flat hv hf hacc hc until_ maxLoop lazy_ useCache strict
  exact ⟨terminates hw hs as he hnf hsch,
    fun hstuck hidle => finished_when_stuck_flat hw hs hfl (exec_reach as Reach.init he) hnf hstuck hidle⟩

end Mosaik.C05
