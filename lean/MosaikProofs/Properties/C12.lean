/-
C12  Attribute classification from model descriptions.

* `ops_*`     : membership semantics of every operator of finite / co-finite sets
* `triple_*`  : `parse_set_triple` returns exactly the partition determined by its arguments, and fails exactly when fewer
                than two are given or no such partition exists
* `attrs_*`   : `parse_attrs` is the two triples (after the type's defaults) plus the type's restrictions (`attrs_decompose`):
                the classes partition inputs resp. attrs, agree with every explicit list, obey the type's restrictions
-/
import MosaikProofs.Lemmas.IOSet
namespace Mosaik.C12
open Mosaik IOSet

/-- membership semantics of the three binary operators, for every combination of finite and co-finite operands (i.e. for
`frozenset.__op__`, `OutSet.__op__` and the reflected `OutSet.__rop__`) -/
theorem ops_sub (a b : IOSet) (x : Nat) : mem x (sub a b) = (mem x a && !mem x b) := by
  cases a <;> cases b <;>
    simp only [sub, mem, contains_ldiff, contains_lunion, contains_linter, Bool.not_not, Bool.not_or, Bool.and_comm]

theorem ops_and (a b : IOSet) (x : Nat) : mem x (inter a b) = (mem x a && mem x b) := by
  cases a <;> cases b <;>
    simp only [inter, mem, contains_ldiff, contains_lunion, contains_linter, Bool.not_or, Bool.and_comm]

theorem ops_or (a b : IOSet) (x : Nat) : mem x (union a b) = (mem x a || mem x b) := by
  cases a <;> cases b <;>
    simp only [union, mem, contains_ldiff, contains_lunion, contains_linter, Bool.not_and, Bool.not_not, Bool.or_comm]

/-- `==` is extensional equality (a finite set never equals a co-finite one: the universe of attribute names is infinite) -/
theorem ops_eq (a b : IOSet) : IOSet.eq a b = true ↔ ∀ x, mem x a = mem x b := by
  have mixed : ∀ a b : List Nat, ¬ ∀ x, a.contains x = !b.contains x := fun a b h => by
    obtain ⟨x, ha, hb⟩ := exists_fresh a b
    have := h x
    rw [ha, hb] at this
    cases this
  cases a with
  | fin a => cases b with
    | fin b => exact lseteq_iff a b
    | cofin b => exact ⟨fun h => Bool.noConfusion h, fun h => absurd h (mixed a b)⟩
  | cofin a => cases b with
    | fin b => exact ⟨fun h => Bool.noConfusion h, fun h => absurd (fun x => (h x).symm) (mixed b a)⟩
    | cofin b => simp only [IOSet.eq, mem, lseteq_iff, Bool.not_inj_iff]

/-- at least two of the three arguments are given -/
def TwoGiven (u a b : Option IOSet) : Prop :=
  (u.isSome ∧ a.isSome) ∨ (u.isSome ∧ b.isSome) ∨ (a.isSome ∧ b.isSome)

/-- `(A, B)` is a partition consistent with everything that is given -/
def Sol (u a b : Option IOSet) (A B : Nat → Bool) : Prop :=
  (∀ x, ¬ (A x = true ∧ B x = true)) ∧
  (∀ u0, u = some u0 → ∀ x, mem x u0 = (A x || B x)) ∧
  (∀ a0, a = some a0 → ∀ x, mem x a0 = A x) ∧
  (∀ b0, b = some b0 → ∀ x, mem x b0 = B x)

theorem disjoint_iff (a b : IOSet) :
    IOSet.eq (inter a b) IOSet.empty = true ↔ ∀ x, ¬ (mem x a = true ∧ mem x b = true) := by
  rw [ops_eq]
  refine forall_congr' fun x => ?_
  rw [ops_and, mem_empty, ← Bool.not_eq_true, Bool.and_eq_true]

theorem cover_iff (u a b : IOSet) :
    IOSet.eq u (union a b) = true ↔ ∀ x, mem x u = (mem x a || mem x b) := by
  rw [ops_eq]
  refine forall_congr' fun x => ?_
  rw [ops_or]

/-- the common tail of `parse_set_triple`: it returns its arguments if they partition `u` -/
theorem tail_some {u a b A B : IOSet}
    (h : (if !(IOSet.eq (inter a b) IOSet.empty) then none
          else if !(IOSet.eq u (union a b)) then none else some (a, b)) = some (A, B)) :
    A = a ∧ B = b ∧ (∀ x, ¬ (mem x a = true ∧ mem x b = true)) ∧ (∀ x, mem x u = (mem x a || mem x b)) := by
  obtain ⟨h1, h⟩ := Option.ite_none_left_eq_some.mp h
  obtain ⟨h2, h⟩ := Option.ite_none_left_eq_some.mp h
  cases h
  rw [Bool.not_eq_true, Bool.not_eq_false'] at h1 h2
  exact ⟨rfl, rfl, (disjoint_iff a b).mp h1, (cover_iff u a b).mp h2⟩

theorem of_some {α : Type} {v : α} {P : α → Prop} (h : P v) : ∀ x, some v = some x → P x :=
  fun _ e => Option.some.inj e ▸ h

/-- soundness: a returned pair is a partition of the union, disjoint, and equal to every part that was given; and at least two
arguments were given -/
theorem triple_sound {u a b : Option IOSet} {A B : IOSet} (h : parseSetTriple u a b = some (A, B)) :
    Sol u a b (mem · A) (mem · B) ∧ TwoGiven u a b ∧
    (∀ a0, a = some a0 → A = a0) ∧ (∀ b0, b = some b0 → B = b0) := by
  unfold parseSetTriple at h
  cases u with
  | none =>
    cases a with
    | none => cases b <;> cases h
    | some a0 =>
      cases b with
      | none => cases h
      | some b0 =>
        obtain ⟨rfl, rfl, hd, _⟩ := tail_some h
        exact ⟨⟨hd, nofun, of_some fun _ => rfl, of_some fun _ => rfl⟩, Or.inr (Or.inr ⟨rfl, rfl⟩), of_some rfl, of_some rfl⟩
  | some u0 =>
    cases a with
    | none =>
      cases b with
      | none => cases h
      | some b0 =>
        obtain ⟨rfl, rfl, hd, hc⟩ := tail_some h
        exact ⟨⟨hd, of_some hc, nofun, of_some fun _ => rfl⟩, Or.inr (Or.inl ⟨rfl, rfl⟩), nofun, of_some rfl⟩
    | some a0 =>
      cases b with
      | none =>
        obtain ⟨rfl, rfl, hd, hc⟩ := tail_some h
        exact ⟨⟨hd, of_some hc, of_some fun _ => rfl, nofun⟩, Or.inl ⟨rfl, rfl⟩, of_some rfl, nofun⟩
      | some b0 =>
        obtain ⟨rfl, rfl, hd, hc⟩ := tail_some h
        exact ⟨⟨hd, of_some hc, of_some fun _ => rfl, of_some fun _ => rfl⟩, Or.inl ⟨rfl, rfl⟩, of_some rfl, of_some rfl⟩

theorem or_and_not : ∀ {p q : Bool}, ¬ (p = true ∧ q = true) → ((p || q) && !q) = p := by decide

theorem tail_of_sol {u a b : IOSet} {A B : Nat → Bool} (hd : ∀ x, ¬ (A x = true ∧ B x = true))
    (hu : ∀ x, mem x u = (A x || B x)) (ha : ∀ x, mem x a = A x) (hb : ∀ x, mem x b = B x) :
    (if !(IOSet.eq (inter a b) IOSet.empty) then none
     else if !(IOSet.eq u (union a b)) then none else some (a, b)) = some (a, b) := by
  have h1 := (disjoint_iff a b).mpr fun x => by rw [ha, hb]; exact hd x
  have h2 := (cover_iff u a b).mpr fun x => by rw [hu, ha, hb]
  rw [h1, h2]
  rfl

/-- completeness: if at least two arguments are given and a consistent partition exists, `parse_set_triple` succeeds and
returns (a representation of) that partition -/
theorem triple_complete {u a b : Option IOSet} {A B : Nat → Bool}
    (h2 : TwoGiven u a b) (hs : Sol u a b A B) :
    ∃ A' B', parseSetTriple u a b = some (A', B') ∧ (∀ x, mem x A' = A x) ∧ (∀ x, mem x B' = B x) := by
  obtain ⟨hdis, hu, ha, hb⟩ := hs
  unfold parseSetTriple
  cases u with
  | none =>
    cases a with
    | none => cases b <;> simp [TwoGiven] at h2
    | some a0 =>
      cases b with
      | none => simp [TwoGiven] at h2
      | some b0 =>
        have ha' := ha a0 rfl
        have hb' := hb b0 rfl
        exact ⟨a0, b0, tail_of_sol hdis (fun x => by rw [ops_or, ha', hb']) ha' hb', ha', hb'⟩
  | some u0 =>
    have hu' := hu u0 rfl
    cases a with
    | none =>
      cases b with
      | none => simp [TwoGiven] at h2
      | some b0 =>
        have hb' := hb b0 rfl
        have hA : ∀ x, mem x (sub u0 b0) = A x := fun x => by rw [ops_sub, hu', hb', or_and_not (hdis x)]
        exact ⟨sub u0 b0, b0, tail_of_sol hdis hu' hA hb', hA, hb'⟩
    | some a0 =>
      have ha' := ha a0 rfl
      cases b with
      | none =>
        have hB : ∀ x, mem x (sub u0 a0) = B x := fun x => by
          rw [ops_sub, hu', ha', Bool.or_comm, or_and_not fun h => hdis x h.symm]
        exact ⟨a0, sub u0 a0, tail_of_sol hdis hu' ha' hB, ha', hB⟩
      | some b0 => exact ⟨a0, b0, tail_of_sol hdis hu' ha' (hb b0 rfl), ha', hb b0 rfl⟩

/-- `parse_set_triple` fails exactly when fewer than two arguments are given or no consistent partition exists -/
theorem triple_none_iff (u a b : Option IOSet) :
    parseSetTriple u a b = none ↔ ¬ TwoGiven u a b ∨ ¬ ∃ A B, Sol u a b A B := by
  constructor
  · intro h
    by_cases h2 : TwoGiven u a b
    · right
      rintro ⟨A, B, hs⟩
      obtain ⟨A', B', h', _⟩ := triple_complete h2 hs
      rw [h] at h'; cases h'
    · exact Or.inl h2
  · intro h
    cases hr : parseSetTriple u a b with
    | none => rfl
    | some r =>
      obtain ⟨A, B⟩ := r
      obtain ⟨hsol, htwo, _⟩ := triple_sound hr
      rcases h with h | h
      · exact absurd htwo h
      · exact absurd ⟨_, _, hsol⟩ h

/-- what a simulator type forbids -/
def TypeOk (ty : SimType) (c : AttrClasses) : Prop :=
  (ty = .timeBased → IOSet.eq c.trigIn IOSet.empty = true ∧ IOSet.eq c.nonPersOut IOSet.empty = true) ∧
  (ty = .eventBased → IOSet.eq c.nonTrigIn IOSet.empty = true ∧ IOSet.eq c.persOut IOSet.empty = true)

theorem typeOk_iff (ty : SimType) (c : AttrClasses) : typeOk ty c = true ↔ TypeOk ty c := by
  unfold typeOk TypeOk
  cases ty <;> simp

/-- `parse_attrs` is the two triples (`inputTriple`, `outputTriple`: the description's lists after the type's defaults) plus the
type's restrictions, nothing else -/
theorem attrs_decompose (m : ModelDesc) (ty : SimType) (c : AttrClasses) :
    parseAttrs m ty = some c ↔
      parseSetTriple (inputTriple m ty).1 (inputTriple m ty).2.1 (inputTriple m ty).2.2 = some (c.nonTrigIn, c.trigIn) ∧
      parseSetTriple (outputTriple m ty).1 (outputTriple m ty).2.1 (outputTriple m ty).2.2 = some (c.persOut, c.nonPersOut) ∧
      TypeOk ty c := by
  rw [← typeOk_iff]
  unfold parseAttrs
  cases h1 : parseSetTriple (inputTriple m ty).1 (inputTriple m ty).2.1 (inputTriple m ty).2.2 with
  | none => simp [h1]
  | some r1 =>
    obtain ⟨mi, ei⟩ := r1
    cases h2 : parseSetTriple (outputTriple m ty).1 (outputTriple m ty).2.1 (outputTriple m ty).2.2 with
    | none => simp [h1, h2]
    | some r2 =>
      obtain ⟨mo, eo⟩ := r2
      simp only [h1, h2, Option.some.injEq, Prod.mk.injEq]
      constructor
      · intro h
        split at h
        · rename_i hok
          cases h
          exact ⟨⟨rfl, rfl⟩, ⟨rfl, rfl⟩, hok⟩
        · cases h
      · rintro ⟨⟨rfl, rfl⟩, ⟨rfl, rfl⟩, h3⟩
        simp [h3]

/-- soundness of the classification: trigger / non-trigger inputs are disjoint and cover the inputs (everything if
`any_inputs`, else `attrs`), persistent / non-persistent outputs are disjoint and cover `attrs`, and every explicitly given
list is returned unchanged -/
theorem attrs_sound {m : ModelDesc} {ty : SimType} {c : AttrClasses} (h : parseAttrs m ty = some c) :
    (∀ x, ¬ (mem x c.nonTrigIn = true ∧ mem x c.trigIn = true)) ∧
    (m.anyInputs = true → ∀ x, (mem x c.nonTrigIn || mem x c.trigIn) = true) ∧
    (m.anyInputs = false → ∀ l, m.attrs = some l → ∀ x, l.contains x = (mem x c.nonTrigIn || mem x c.trigIn)) ∧
    (∀ x, ¬ (mem x c.persOut = true ∧ mem x c.nonPersOut = true)) ∧
    (∀ l, m.attrs = some l → ∀ x, l.contains x = (mem x c.persOut || mem x c.nonPersOut)) ∧
    (∀ l, m.trigger = some l → c.trigIn = IOSet.fin l) ∧
    (∀ l, m.nonTrigger = some l → c.nonTrigIn = IOSet.fin l) ∧
    (∀ l, m.persistent = some l → c.persOut = IOSet.fin l) ∧
    (∀ l, m.nonPersistent = some l → c.nonPersOut = IOSet.fin l) ∧
    TypeOk ty c := by
  obtain ⟨hin, hout, hty⟩ := (attrs_decompose m ty c).mp h
  unfold inputTriple at hin
  unfold outputTriple at hout
  obtain ⟨⟨hd1, hu1, _, _⟩, _, ha1, hb1⟩ := triple_sound hin
  obtain ⟨⟨hd2, hu2, _, _⟩, _, ha2, hb2⟩ := triple_sound hout
  refine ⟨hd1, ?_, ?_, hd2, ?_, ?_, ?_, ?_, ?_, hty⟩
  · intro hany x
    exact (hu1 (IOSet.cofin []) (by rw [hany]; rfl) x).symm
  · intro hany l hl x
    exact hu1 (IOSet.fin l) (by rw [hany, hl]; rfl) x
  · intro l hl x
    exact hu2 (IOSet.fin l) (by rw [hl]; rfl) x
  · intro l hl; exact hb1 _ (by rw [hl])
  · intro l hl; exact ha1 _ (by rw [hl])
  · intro l hl; exact ha2 _ (by rw [hl])
  · intro l hl; exact hb2 _ (by rw [hl])

/-- `parse_attrs` rejects a description iff no classification `c` meets the conditions of `attrs_decompose` together with the
conclusions of `triple_sound` for the input triple.  Those conditions amount to `parseAttrs m ty = some c`; which descriptions
make a triple fail is said by `triple_none_iff`. -/
theorem attrs_none_iff (m : ModelDesc) (ty : SimType) :
    parseAttrs m ty = none ↔
      ∀ c, ¬ (Sol (inputTriple m ty).1 (inputTriple m ty).2.1 (inputTriple m ty).2.2 (mem · c.nonTrigIn) (mem · c.trigIn) ∧
              TwoGiven (inputTriple m ty).1 (inputTriple m ty).2.1 (inputTriple m ty).2.2 ∧
              (∀ a0, (inputTriple m ty).2.1 = some a0 → c.nonTrigIn = a0) ∧ (∀ b0, (inputTriple m ty).2.2 = some b0 → c.trigIn = b0) ∧
              parseSetTriple (inputTriple m ty).1 (inputTriple m ty).2.1 (inputTriple m ty).2.2 = some (c.nonTrigIn, c.trigIn) ∧
              parseSetTriple (outputTriple m ty).1 (outputTriple m ty).2.1 (outputTriple m ty).2.2 = some (c.persOut, c.nonPersOut) ∧
              TypeOk ty c) := by
  constructor
  · intro h c hc
    obtain ⟨_, _, _, _, hin, hout, hty⟩ := hc
    have := (attrs_decompose m ty c).mpr ⟨hin, hout, hty⟩
    rw [h] at this; cases this
  · intro h
    cases hr : parseAttrs m ty with
    | none => rfl
    | some c =>
      exfalso
      obtain ⟨hin, hout, hty⟩ := (attrs_decompose m ty c).mp hr
      obtain ⟨hs, h2, ha, hb⟩ := triple_sound hin
      exact h c ⟨hs, h2, ha, hb, hin, hout, hty⟩

example : parseAttrs { attrs := some [0, 1, 2], trigger := some [1] } .hybrid =
    some { nonTrigIn := .fin [0, 2], trigIn := .fin [1], persOut := .fin [0, 1, 2], nonPersOut := .fin [] } := by decide +kernel
example : parseAttrs { attrs := some [0, 1], trigger := some [1] } .timeBased = none := by decide +kernel
example : TwoGiven (some (.fin [0, 1])) none (some (.fin [1])) ∧
    parseSetTriple (some (.fin [0, 1])) none (some (.fin [1])) = some (.fin [0], .fin [1]) := by
  refine ⟨Or.inr (Or.inl ⟨rfl, rfl⟩), by decide +kernel⟩

end Mosaik.C12
