/-
C14  Fault containment and clean shutdown — the control-flow part.

For every way the run phase can end (= every fault point and fault kind, abstracted to the exception class that reaches
`World.run`), provided `stop()` of every simulator returns (raises nothing that `RemoteProxy.stop` does not catch):
* `stop_once`        every simulator is stopped exactly once, in order, and the loop is closed
* `second_shutdown`  a second `shutdown()` does nothing
* `outcome`          KeyboardInterrupt and RemoteException are swallowed (logged), everything else is re-raised after the
                     shutdown
* `main_task_wound_down`, `shutdown_with_pending_main`  the scheduler task is never left pending (fix D22), and why that matters
* `request_never_stuck`, `unfixed_request_stuck`, `d21_alone_stuck_on_reset`  a request to a remote simulator cannot wait for
                     ever (fixes D21, D24; `MosaikModel/Channel.lean`)
The hypothesis about `stop()` is the visible gap (`stop_failure_skips_later`: when one `stop()` raises, the simulators after it
are not stopped and the loop stays open; `stop_failure_skips_rest` is an instance).
What no model exhibits — processes, sockets, the 0.1 s stop timeout, promptness, pending asyncio tasks — is decided by the
fault enumeration on the real code (harness/fault_enum.py).
-/
import MosaikModel.RunShutdown
import MosaikModel.Channel
import MosaikProofs.Lemmas.Shutdown
namespace Mosaik.C14
open Mosaik.RunShutdown

/-- every simulator is stopped exactly once and the loop is closed, however the run ended -/
theorem stop_once (w : WorldSt) (e : RunEnd) (hopen : w.loopClosed = false) (hfresh : w.stops = []) :
    let w' := (run (fun _ => none) w e).1
    w'.loopClosed = true ∧ w'.stops.reverse = List.range w.n ∧ ∀ i, i < w.n → w'.stops.count i = 1 := by
  -- `windDown` has cleared `mainPending`, so `shutdown_ok` closes the loop
  simp only [run, windDown, shutdown_ok, hopen, hfresh, List.append_nil, List.reverse_reverse, List.count_reverse]
  refine ⟨rfl, trivial, fun i hi => ?_⟩
  rw [List.nodup_range.count, if_pos (List.mem_range.mpr hi)]

theorem second_shutdown (stopRaises : Nat → Option Nat) (w : WorldSt) (h : w.loopClosed = true) :
    shutdown stopRaises w = (w, none) := by
  simp [shutdown, h]

/-- what the caller sees -/
theorem outcome (w : WorldSt) (e : RunEnd) (hopen : w.loopClosed = false) :
    (run (fun _ => none) w e).2 = match e with
      | .ok => .returned
      | .keyboardInterrupt => .returned
      | .remoteException => .returned
      | .other cls => .raised cls
      | .systemExit => .raised resurfaced := by
  simp only [run, windDown, shutdown_ok, hopen]
  rfl

/-- after `World.run` the scheduler task is never left pending, however the run ended — also when a `KeyboardInterrupt` or a
`SystemExit` raised inside an in-process simulator left the event loop at once (fix D22) -/
theorem main_task_wound_down (stopRaises : Nat → Option Nat) (w : WorldSt) (e : RunEnd) :
    (run stopRaises w e).1.mainPending = false :=
  shutdown_mainPending stopRaises (windDown { w with mainPending := e.leavesMainPending })

/-- the wind-down is needed: a `shutdown()` that runs while the scheduler task is pending stops every simulator but never
closes the loop and raises (what the tree before fix D22 did for `SystemExit` / `KeyboardInterrupt` out of an in-process
simulator; the next `shutdown()` then finalized every simulator a second time) -/
theorem shutdown_with_pending_main (w : WorldSt) (hopen : w.loopClosed = false) (hfresh : w.stops = []) (hp : w.mainPending = true) :
    let r := shutdown (fun _ => none) w
    r.1.loopClosed = false ∧ r.1.stops.reverse = List.range w.n ∧ r.2 = some resurfaced ∧
      (shutdown (fun _ => none) r.1).1.stops.length = 2 * w.n := by
  simp only [shutdown_ok _ hopen, hp, hfresh]
  refine ⟨rfl, by simp, rfl, ?_⟩
  rw [shutdown_ok _ rfl]
  simp
  omega

theorem stop_failure_skips_later (stopRaises : Nat → Option Nat) (w : WorldSt) (e : RunEnd) {j cls : Nat}
    (hopen : w.loopClosed = false) (hj : j < w.n) (hnone : ∀ i, i < j → stopRaises i = none) (hsome : stopRaises j = some cls) :
    let w' := (run stopRaises w e).1
    w'.loopClosed = false ∧ w'.stops = (List.range (j + 1)).reverse ++ w.stops := by
  obtain ⟨k, hk⟩ := Nat.exists_eq_add_of_lt hj
  have hbefore : ∀ x ∈ List.range' 0 j, stopRaises x = none := by
    rw [← List.range_eq_range']
    exact fun x hx => hnone x (List.mem_range.mp hx)
  have hstop : stopFrom stopRaises w.n 0 w.stops = ((List.range (j + 1)).reverse ++ w.stops, some cls) := by
    rw [hk, Nat.add_assoc, stopFrom_skip stopRaises j (k + 1) 0 w.stops hbefore]
    rw [stopFrom, Nat.zero_add, hsome, List.range_succ, List.reverse_append, List.range_eq_range']
    rfl
  simp only [run, windDown, shutdown, hopen, hstop]
  exact ⟨rfl, rfl⟩

theorem stop_failure_skips_rest (w : WorldSt) (e : RunEnd) (j cls : Nat)
    (hw : w = { n := 3 }) (hj : j = 0) :
    let w' := (run (fun i => if i = j then some cls else none) w e).1
    w'.loopClosed = false ∧ w'.stops = [0] := by
  subst hw hj
  exact stop_failure_skips_later _ { n := 3 } e rfl (Nat.succ_pos 2) (fun _ h => absurd h (Nat.not_lt_zero _)) (if_pos rfl)

section channel
open Mosaik.Channel

/-- after the fixes D21 and D24 no request is ever stuck: whatever state the connection is in, while a request is outstanding
one of the transport events that resolve it is enabled — the simulator answers, or (it has died or hung up, in order or by a reset)
the receiver task wakes up, or `send` notices that a task it watches is done -/
theorem request_never_stuck (s : Channel.St) : ¬ Channel.Stuck 2 s := by
  rintro ⟨hp, hall⟩
  cases h1 : s.peerAlive with
  | true => simpa [Channel.step, h1, hp] using hall .reply (by decide)
  | false =>
    cases h2 : s.receiverDone with
    | true => simpa [Channel.step, h2, hp] using hall .sendNotices (by decide)
    | false =>
      have := hall .receiverWakes (by decide)
      cases h3 : s.abortive <;> simp [Channel.step, h1, h2, h3] at this

/-- the events that can still happen while a request is outstanding -/
def Channel.budget (s : Channel.St) : Nat :=
  (if s.peerAlive then 1 else 0) + (if s.receiverDone then 0 else 1) + (if s.readerDone then 0 else 1) + (if s.req = .pending then 1 else 0)

/-- every transport event other than a new `send` uses up budget (for every `fix`; that a request is resolved within so many
events is not stated) -/
theorem request_resolves_soon (fix : Nat) (s s' : Channel.St) (a : Channel.Act) (ha : a ≠ .send)
    (h : Channel.step fix s a = some s') : Channel.budget s' < Channel.budget s := by
  -- each event clears one of the four flags and sets none (only the receiver task, on its way out, touches a second one)
  unfold Channel.budget
  cases a with
  | send => exact absurd rfl ha
  | reply =>
    obtain ⟨⟨_, hpending⟩, rfl⟩ := Option.ite_some_none_eq_some.mp h
    rw [hpending]
    exact sum_falls (Nat.le_refl _) (Nat.le_refl _) (Nat.le_refl _) (Nat.zero_le _) (.inr (.inr (.inr Nat.zero_lt_one)))
  | die ab =>
    obtain ⟨halive, rfl⟩ := Option.ite_some_none_eq_some.mp h
    rw [halive]
    exact sum_falls (Nat.zero_le _) (Nat.le_refl _) (Nat.le_refl _) (Nat.le_refl _) (.inl Nat.zero_lt_one)
  | receiverWakes =>
    obtain ⟨⟨_, hruns⟩, h⟩ := Option.ite_none_right_eq_some.mp h
    simp only [Bool.not_eq_eq_eq_not, Bool.not_true] at hruns
    rw [hruns]
    by_cases hab : s.abortive = true
    · rw [if_pos hab] at h
      cases h
      exact sum_falls (Nat.le_refl _) (Nat.zero_le _) (Nat.le_refl _) (Nat.le_refl _) (.inr (.inl Nat.zero_lt_one))
    · rw [if_neg hab] at h
      cases h
      -- the request fails if it was pending; it does not become pending
      have hreq : (if (if s.req = .pending then Req.failed else s.req) = .pending then 1 else 0) ≤ (if s.req = .pending then 1 else 0) := by
        by_cases hr : s.req = .pending
        · rw [if_pos hr, if_pos hr]
          exact Nat.zero_le _
        · rw [if_neg hr]
          exact Nat.le_refl _
      exact sum_falls (Nat.le_refl _) (Nat.zero_le _) (Nat.le_refl _) hreq (.inr (.inl Nat.zero_lt_one))
  | readerWakes =>
    obtain ⟨⟨_, hruns⟩, rfl⟩ := Option.ite_some_none_eq_some.mp h
    simp only [Bool.not_eq_eq_eq_not, Bool.not_true] at hruns
    rw [hruns]
    exact sum_falls (Nat.le_refl _) (Nat.le_refl _) (Nat.zero_le _) (Nat.le_refl _) (.inr (.inr (.inl Nat.zero_lt_one)))
  | sendNotices =>
    obtain ⟨⟨hpending, _⟩, rfl⟩ := Option.ite_some_none_eq_some.mp h
    rw [hpending]
    exact sum_falls (Nat.le_refl _) (Nat.le_refl _) (Nat.le_refl _) (Nat.zero_le _) (.inr (.inr (.inr Nat.zero_lt_one)))

/-- originally a request could wait for ever (D21): the simulator dies while no request is outstanding, the receiver and the
reader task see the end of the stream, then mosaik sends the next request — nothing is enabled any more (the hang of `run()`
reproduced by the fault kind `exit_idle` on the tree before fix D21) -/
theorem unfixed_request_stuck :
    ∃ s, Channel.exec 0 {} [.die false, .receiverWakes, .readerWakes, .send] = some s ∧ Channel.Stuck 0 s := by
  refine ⟨{ peerAlive := false, receiverDone := true, eofSeen := true, readerDone := true, req := .pending }, rfl, rfl,
    fun a ha => ?_⟩
  cases a with
  | send => exact absurd rfl ha
  | _ => rfl

/-- fix D21 alone left the reset case (D24): a request is outstanding, the connection is reset, the receiver task ends
without failing the request and without `EndOfRequests` — the reader task never ends, `send` watches only the reader task (the
hang reproduced by the fault kind `reset` on the tree before fix D24) -/
theorem d21_alone_stuck_on_reset :
    ∃ s, Channel.exec 1 {} [.send, .die true, .receiverWakes] = some s ∧ Channel.Stuck 1 s := by
  refine ⟨{ peerAlive := false, abortive := true, receiverDone := true, req := .pending }, rfl, rfl, fun a ha => ?_⟩
  cases a with
  | send => exact absurd rfl ha
  | _ => rfl

/-- the same two histories on the fixed code: the request fails (`ConnectionResetError` → `SimulationError` naming the simulator) -/
example : (Channel.exec 2 {} [.die false, .receiverWakes, .readerWakes, .send]).map (·.req) = some .failed := by decide +kernel
example : (Channel.exec 2 {} [.send, .die true, .receiverWakes, .sendNotices]).map (·.req) = some .failed := by decide +kernel

end channel

example : (run (fun _ => none) { n := 3 } (.other 7)) = ({ n := 3, loopClosed := true, stops := [2, 1, 0] }, .raised 7) := by decide +kernel
example : (run (fun _ => none) { n := 2 } .remoteException).2 = .returned := by decide +kernel
example : (run (fun _ => none) { n := 2 } .systemExit) = ({ n := 2, loopClosed := true, stops := [1, 0] }, .raised resurfaced) := by decide +kernel

end Mosaik.C14
