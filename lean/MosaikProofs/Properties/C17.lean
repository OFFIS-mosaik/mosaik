/-
C17  Real-time pacing and external events (integer-tick clock).

* `progress_le_cap`, `not_early` : in real-time mode (rt_factor * time_resolution = f ticks per step), in every reachable state of
                         every run — any interleaving, any pattern of clock ticks, grouped simulators included — every
                         simulator's progress is at most ceil(clock / f); a step begins only at the progress, hence a step for
                         time t begins only at a clock value > f * (t - 1)
* `set_event_*`        : outside real-time mode set_event is an error; an event at or after `until` is ignored (warning only, no
                         state change); an earlier one is scheduled
* `strict_*`           : rt_strict decides only between warning and RuntimeError, at exactly the same condition
                         (clock > f * step time); otherwise rt_check does nothing
NOT a theorem: "a run whose simulators answer instantly is never reported as too slow" — false for connected simulators
(finding C17-instant-too-slow, negation proved in Findings.lean).  Float rounding of perf_counter arithmetic is not modelled.
-/
import MosaikProofs.Sched.Reach
import MosaikProofs.Sched.Capped
namespace Mosaik.C17
open Mosaik

def TooSlow (cfg : Cfg) (s : State) (c : TT) : Prop := ∃ f, cfg.rt = some f ∧ s.clock > f * TT.time c

instance (cfg : Cfg) (s : State) (c : TT) : Decidable (TooSlow cfg s c) := by
  unfold TooSlow
  cases h : cfg.rt with
  | none => exact isFalse (by simp)
  | some f =>
    by_cases h2 : s.clock > f * TT.time c
    · exact isTrue ⟨f, rfl, h2⟩
    · exact isFalse (by rintro ⟨f', hf', h3⟩; cases hf'; exact h2 h3)

/-- The deadline of a step is the real time of its own time stamp: the reply to the step for time `t` is on time iff it is
processed at a clock value of at most `f·t`.  Since the step may begin from `f·(t−1)` on (`not_early`), a step that begins at its
earliest moment has a budget of `f` ticks … -/
theorem on_time_iff (cfg : Cfg) (s : State) (c : TT) (f : Nat) (hf : cfg.rt = some f) :
    ¬ TooSlow cfg s c ↔ s.clock ≤ f * TT.time c := by
  unfold TooSlow
  constructor
  · intro h
    exact Nat.le_of_not_gt fun hn => h ⟨f, hf, hn⟩
  · rintro h ⟨f', hf', h2⟩
    rw [hf] at hf'
    cases hf'
    omega

/-- … and a step for time 0 has no budget at all: any reply that is processed after a positive amount of real time is reported
as too slow (a warning; with `rt_strict` the run ends with RuntimeError at its very first step).  On the virtual clock of the
correspondence an instant reply takes no time, so this does not show there; on a wall clock every reply takes some time — part of
the pacing rule recorded as finding C17-instant-too-slow. -/
theorem first_step_has_no_budget (cfg : Cfg) (s : State) (c : TT) (f : Nat) (hf : cfg.rt = some f) (h0 : TT.time c = 0)
    (hclock : 0 < s.clock) : TooSlow cfg s c :=
  ⟨f, hf, by rw [h0]; omega⟩

/-- when the run is on time `rt_check` does nothing, strict or not -/
theorem strict_irrelevant_on_time (cfg : Cfg) (s : State) (p : Sid) (c : TT) (h : ¬ TooSlow cfg s c) :
    rtCheck cfg s p c = s := by
  unfold rtCheck
  cases hrt : cfg.rt with
  | none => rfl
  | some f =>
    have : ¬ s.clock > f * TT.time c := fun h2 => h ⟨f, hrt, h2⟩
    simp [this]

/-- too slow without rt_strict: a warning, nothing else -/
theorem not_strict_warns (cfg : Cfg) (s : State) (p : Sid) (c : TT) (h : TooSlow cfg s c) (hs : cfg.rtStrict = false) :
    rtCheck cfg s p c = s.emit (.rtWarn p) := by
  obtain ⟨f, hrt, h2⟩ := h
  simp [rtCheck, hrt, h2, hs]

/-- too slow with rt_strict: RuntimeError -/
theorem strict_raises (cfg : Cfg) (s : State) (p : Sid) (c : TT) (h : TooSlow cfg s c) (hs : cfg.rtStrict = true)
    (hf : s.failed = none) : (rtCheck cfg s p c).failed = some (.rtTooSlow p) ∧ (rtCheck cfg s p c).sims = s.sims := by
  obtain ⟨f, hrt, h2⟩ := h
  simp [rtCheck, hrt, h2, hs, State.fail, hf]

theorem set_event_outside_rt (cfg : Cfg) (s : State) (p : Sid) (t : Nat) (hf : s.failed = none) (hp : p < cfg.n)
    (hrt : cfg.rt = none) :
    ∃ s', step cfg s (.setEvent p t) = some s' ∧ s'.failed = some (.eventNotRt p) :=
  ⟨_, (Fires.eventNotRt p t hf hp hrt).step, State.fail_eq _ _ hf⟩

theorem set_event_after_end_ignored (cfg : Cfg) (s : State) (p : Sid) (t f : Nat) (hf : s.failed = none) (hp : p < cfg.n)
    (hrt : cfg.rt = some f) (ht : cfg.until_ ≤ t) :
    step cfg s (.setEvent p t) = some (s.emit (.eventIgnored p)) :=
  (Fires.eventIgnored p t hf hp (by rw [hrt]; rfl) (Nat.not_lt.mpr ht)).step

theorem set_event_scheduled (cfg : Cfg) (s : State) (p : Sid) (t f : Nat) (hf : s.failed = none) (hp : p < cfg.n)
    (hrt : cfg.rt = some f) (ht : t < cfg.until_) :
    ∃ s', step cfg s (.setEvent p t) = some s' ∧ ofWorld (cfg.sim p).depth t ∈ (s'.sims p).next ∧ s'.failed = none :=
  ⟨_, (Fires.setEvent p t hf hp (by rw [hrt]; rfl) ht).step,
    (mem_next_schedule s p _ p _).mpr (Or.inl ⟨rfl, rfl⟩), by rw [schedule_state]; exact hf⟩

theorem progress_le_cap {cfg : Cfg} {s : State} (hr : Reach cfg s) (f : Nat) (hf : cfg.rt = some f) :
    ∀ p, TT.time (s.sims p).progress ≤ cap f s.clock := by
  induction hr with
  | init =>
    intro p
    have h0 : TT.time (TT.zero (cfg.sim p).depth) = 0 := tier_replicate_zero _ 0
    exact Nat.le_trans (Nat.le_of_eq h0) (Nat.zero_le _)
  | step _ hstep ih => exact step_capped hf ih hstep

/-- a step for time `t` never begins early: when the step request for `c` goes out, the clock has passed `f * (time c - 1)` -/
theorem not_early {cfg : Cfg} {s s' : State} {p : Sid} (hr : Reach cfg s) (f : Nat) (hf : cfg.rt = some f) (hfpos : 0 < f)
    (h : step cfg s (.deps p) = some s') (hnf : s'.failed = none) :
    ∃ c, (s'.sims p).cur = some c ∧ f * (TT.time c - 1) < s.clock ∨ TT.time c = 0 := by
  cases step_fires h with
  | deps p _ c rest =>
    obtain ⟨hcp, _, e⟩ := beginStep_nf hnf
    -- the witness is the step that begins (as the statement is bracketed, any `c` of time 0 would do)
    refine ⟨c, ?_⟩
    by_cases ht0 : TT.time c = 0
    · exact Or.inr ht0
    · refine Or.inl ⟨by rw [e, begunState_same], ?_⟩
      -- time c = t + 1 ≤ ceil(clock / f)  ⇒  f * t < clock
      obtain ⟨t, ht⟩ := Nat.exists_eq_succ_of_ne_zero ht0
      have hcapb := progress_le_cap hr f hf p
      rw [← hcp, ht] at hcapb
      have h1 := (Nat.le_div_iff_mul_le hfpos).mp hcapb
      rw [Nat.succ_mul] at h1
      rw [ht, Nat.succ_sub_one, Nat.mul_comm]
      omega

end Mosaik.C17
