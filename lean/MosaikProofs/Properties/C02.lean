/-
C02  Exact step set: no spurious, duplicated or out-of-order steps.

For all `WFCfg` configurations, behaviours and interleavings.  Safety: the steps a simulator begins are strictly
increasing in tiered time (sub-steps of one time in order, no time twice), lie in `[0, until)`, each was the earliest
scheduled step when it began, and each was demanded in the run's own history (`only_demanded_steps`).
Conversely (`complete_at_end`), when a run has ended (every process ended, no failure), every demanded step before
`until` has been executed; together `exact_step_set`.
NOT proved here (liveness): that every demanded time is eventually executed.  That a run ends is `C05.terminates` with
`C05.deadlock_free_flat` for flat configurations; otherwise the monitor, which recomputes the demanded set from the trace.
-/
import MosaikProofs.Sched.Complete
import MosaikProofs.Sched.Done
namespace Mosaik.C02
open Mosaik

/-- strictly increasing, no duplicates: `begun` lists the steps most recent first -/
theorem steps_strictly_increasing {cfg : Cfg} (hw : WFCfg cfg) {s : State} (hr : Reach cfg s) (hnf : s.failed = none)
    (p : Sid) (hp : p < cfg.n) : (s.sims p).begun.Pairwise (fun later earlier => earlier < later) :=
  ((reach_good hw hr hnf).1 p hp).begun_sorted

theorem no_duplicate_steps {cfg : Cfg} (hw : WFCfg cfg) {s : State} (hr : Reach cfg s) (hnf : s.failed = none)
    (p : Sid) (hp : p < cfg.n) : (s.sims p).begun.Nodup := by
  have := steps_strictly_increasing hw hr hnf p hp
  rw [List.nodup_iff_pairwise_ne]
  exact this.imp (fun {a b} h e => by subst e; exact TT.lt_irrefl _ h)

theorem steps_before_until {cfg : Cfg} (hw : WFCfg cfg) {s : State} (hr : Reach cfg s) :
    s.failed = none → ∀ p, ∀ b ∈ (s.sims p).begun, TT.time b < cfg.until_ :=
  begun_ind hw (fun _ _ h => h.time) hr

/-- a step begins only at the earliest scheduled time, which equals the simulator's progress; a
scheduled step is executed at most once (it is removed when it begins, and everything that remains
is strictly after it; so is whatever is scheduled later: `scheduled_not_skipped`) -/
theorem step_is_earliest_scheduled {cfg : Cfg} (hw : WFCfg cfg) {s s' : State} {p : Sid} (hr : Reach cfg s)
    (h : step cfg s (.deps p) = some s') (hnf : s'.failed = none) :
    ∃ c, (s.sims p).next.head? = some c ∧ (s.sims p).progress = c ∧ (s'.sims p).cur = some c ∧
      (∀ x ∈ (s'.sims p).next, c < x) := by
  cases step_fires h with
  | deps _ _ c rest hf hp _ _ hnext =>
    obtain ⟨hprog, _, e⟩ := beginStep_nf hnf
    have hsorted := ((reach_good hw hr hf).1 p hp).sorted
    rw [hnext] at hsorted
    rw [e, begunState_same, hnext]
    exact ⟨c, rfl, hprog.symm, rfl, (List.pairwise_cons.mp hsorted).1⟩

/-- scheduled steps are never in the simulator's past, so none can be lost by being skipped: every
scheduled time is at or after the progress, and strictly after every step already begun -/
theorem scheduled_not_skipped {cfg : Cfg} (hw : WFCfg cfg) {s : State} (hr : Reach cfg s) (hnf : s.failed = none)
    (p : Sid) (hp : p < cfg.n) :
    (∀ t ∈ (s.sims p).next, (s.sims p).progress ≤ t) ∧ (∀ b ∈ (s.sims p).begun, ∀ t ∈ (s.sims p).next, b < t) :=
  ⟨((reach_good hw hr hnf).1 p hp).le_next, ((reach_good hw hr hnf).1 p hp).begun_lt_next⟩

/-- a demand raised by action `a` fired in state `s0`: a returned next step or a delivered trigger -/
def Demand (cfg : Cfg) (s0 : State) (a : Action) (b : Sid) (x : TT) : Prop := SelfSrc cfg s0 a b x ∨ TrigSrc cfg s0 a b x

/-- the demand was raised at some point of the run `as` started in `s` -/
def DemandedIn (cfg : Cfg) (s : State) (as : List Action) (b : Sid) (x : TT) : Prop :=
  ∃ as1 a as2 s0, as = as1 ++ a :: as2 ∧ exec cfg s as1 = some s0 ∧ Demand cfg s0 a b x

theorem DemandedIn.cons {cfg : Cfg} {s s1 : State} {a : Action} {as : List Action} {b : Sid} {x : TT}
    (hs : step cfg s a = some s1) (h : DemandedIn cfg s1 as b x) : DemandedIn cfg s (a :: as) b x := by
  obtain ⟨as1, a', as2, s0, he, hx, hd⟩ := h
  exact ⟨a :: as1, a', as2, s0, by rw [he]; rfl, by simp only [exec, hs]; exact hx, hd⟩

theorem demanded_from {cfg : Cfg} (hw : WFCfg cfg) (b : Sid) (x : TT) : ∀ (as : List Action) {s s' : State},
    exec cfg s as = some s' → Reach cfg s → s'.failed = none → x ∈ (s'.sims b).next ∨ x ∈ (s'.sims b).begun →
    (x ∈ (s.sims b).next ∨ x ∈ (s.sims b).begun) ∨ DemandedIn cfg s as b x := by
  refine exec_ind (fun _ _ _ hx => Or.inl hx) ?_
  intro s s1 s' a as hs h ih hr hnf hx
  rcases ih (Reach.step hr hs) hnf hx with (h1 | h1) | h1
  · rcases step_sources hs b x h1 with h2 | h2 | h2 | ⟨t, _, hrt⟩
    · exact Or.inl (Or.inl h2)
    · exact Or.inr ⟨[], a, as, s, rfl, rfl, Or.inl h2⟩
    · exact Or.inr ⟨[], a, as, s, rfl, rfl, Or.inr h2⟩
    · rw [hw.noRt] at hrt
      cases hrt
  · rcases begun_sources hw hr hs (exec_not_failed h hnf) b x h1 with h2 | h2
    · exact Or.inl (Or.inr h2)
    · exact Or.inl (Or.inl (List.mem_of_mem_head? h2.head))
  · exact Or.inr (h1.cons hs)

/-- "And at no others": every step a simulator has begun (or has scheduled) in a run from the initial state belongs to
the initial schedule, or the demand was raised by an action of this very run — the simulator's own returned next step
(`SelfSrc`: an integer later than the step's time and before `until`) or an output delivered to one of its trigger
connections (`TrigSrc`: the delayed output time of an output present in another step's data). -/
theorem only_demanded_steps {cfg : Cfg} (hw : WFCfg cfg) (as : List Action) {s : State}
    (he : exec cfg (initState cfg) as = some s) (hnf : s.failed = none) (b : Sid) (x : TT)
    (hx : x ∈ (s.sims b).begun ∨ x ∈ (s.sims b).next) :
    x ∈ (cfg.sim b).next0 ∨ DemandedIn cfg (initState cfg) as b x := by
  rcases demanded_from hw b x as he Reach.init hnf hx.symm with (h | h) | h
  · exact Or.inl h
  · exact (List.not_mem_nil h).elim
  · exact Or.inr h

theorem scheduled_or_begun {cfg : Cfg} (hw : WFCfg cfg) (b : Sid) (x : TT) : ∀ (as : List Action) {s s' : State},
    exec cfg s as = some s' → Reach cfg s → s'.failed = none → x ∈ (s.sims b).next ∨ x ∈ (s.sims b).begun →
    x ∈ (s'.sims b).next ∨ x ∈ (s'.sims b).begun := by
  refine exec_ind (fun _ _ _ hx => hx) ?_
  intro s s1 s' a as hs h ih hr hnf hx
  have hnf1 := exec_not_failed h hnf
  rcases hx with hx | hx
  · exact ih (Reach.step hr hs) hnf (step_next_or_begun hs hnf1 b x hx)
  · exact ih (Reach.step hr hs) hnf (Or.inr ((step_mono hw hr hs hnf1).2 b x hx))

/-- "Every demanded time is executed", at the end of a run: if `as` leads from the initial state to a state that has
not failed and in which every simulator's process has ended, then every step of the initial schedule and every step
demanded during the run whose time lies before `until` has been executed. -/
theorem complete_at_end {cfg : Cfg} (hw : WFCfg cfg) (as : List Action) {s : State}
    (he : exec cfg (initState cfg) as = some s) (hnf : s.failed = none) (hend : ∀ p, p < cfg.n → (s.sims p).pc = .done)
    {b : Sid} (hb : b < cfg.n) {x : TT} (hx : x ∈ (cfg.sim b).next0 ∨ DemandedIn cfg (initState cfg) as b x)
    (ht : TT.time x < cfg.until_) : x ∈ (s.sims b).begun := by
  have hr : Reach cfg s := exec_reach as Reach.init he
  have hsb : x ∈ (s.sims b).next ∨ x ∈ (s.sims b).begun := by
    rcases hx with hx | ⟨as1, a, as2, s0, rfl, hx0, hd⟩
    · exact scheduled_or_begun hw b x as he Reach.init hnf (Or.inl hx)
    · rw [exec_append, hx0] at he
      obtain ⟨s1, hs, he⟩ := exec_cons he
      exact scheduled_or_begun hw b x as2 he (Reach.step (exec_reach as1 Reach.init hx0) hs) hnf
        (Or.inl (demand_scheduled hs (exec_not_failed he hnf) hd))
  rcases hsb with h | h
  · -- still scheduled: at or after the progress, which has reached `until`
    exfalso
    have h1 := ((reach_good hw hr hnf).1 b hb).le_next x h
    have h2 := reach_doneOk hr hnf b (hend b hb)
    have := TT.time_mono h1
    omega
  · exact h

/-- At the end of a run (no failure, every process ended) the steps before `until` a simulator has executed are exactly
the demanded ones, each executed once, in increasing order. -/
theorem exact_step_set {cfg : Cfg} (hw : WFCfg cfg) (as : List Action) {s : State}
    (he : exec cfg (initState cfg) as = some s) (hnf : s.failed = none) (hend : ∀ p, p < cfg.n → (s.sims p).pc = .done)
    {b : Sid} (hb : b < cfg.n) :
    (∀ x, TT.time x < cfg.until_ → (x ∈ (s.sims b).begun ↔ (x ∈ (cfg.sim b).next0 ∨ DemandedIn cfg (initState cfg) as b x))) ∧
    (s.sims b).begun.Nodup ∧ (s.sims b).begun.Pairwise (fun later earlier => earlier < later) := by
  have hr : Reach cfg s := exec_reach as Reach.init he
  refine ⟨?_, no_duplicate_steps hw hr hnf b hb, steps_strictly_increasing hw hr hnf b hb⟩
  intro x ht
  constructor
  · intro hx; exact only_demanded_steps hw as he hnf b x (Or.inl hx)
  · intro hx; exact complete_at_end hw as he hnf hend hb hx ht

end Mosaik.C02
