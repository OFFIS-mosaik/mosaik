/-
C09  Same-time loop guard.

`guard_fires`      : a simulator that would begin a sub-step whose index (on any tier) has reached
                     `max_loop_iterations` aborts the run with the loop error naming that simulator
`guard_only_then`  : the loop error is raised for no other reason: only by a `deps p` whose step has a sub-step index
                     at the bound.  (Indices, not iterations: that a loop needing fewer iterations at every time step is
                     never interrupted does not follow and is false, finding C09-shift-carries-substep.)
`substeps_bounded` : consequently every step ever begun has all its sub-tiers below the bound; with the steps strictly
                     increasing (C02): `at_most_bound_substeps`
-/
import MosaikProofs.Sched.Trace
namespace Mosaik.C09
open Mosaik

/-- some sub-tier has reached the bound -/
def OverBound (cfg : Cfg) (c : TT) : Bool := c.tail.any fun k => decide (k ≥ cfg.maxLoop)

theorem guard_fires {cfg : Cfg} (hw : WFCfg cfg) {s s' : State} {p : Sid} (hr : Reach cfg s)
    (h : step cfg s (.deps p) = some s') (c : TT) (hpc : (s.sims p).pc = .waitDeps c) (hover : OverBound cfg c = true) :
    s'.failed = some (.loop p) := by
  cases step_fires h with
  | deps _ t c' rest hf hp hpc' _ hnext =>
    rw [hpc] at hpc'
    cases hpc'
    -- the step popped is the awaited one, which is the progress
    obtain ⟨w1, w2, _⟩ := ((reach_good hw hr hf).2 p hp).waiting c hpc
    rw [hnext] at w1
    cases w1
    rcases beginStep_cases cfg s p c rest with ⟨_, ⟨hne, _⟩ | ⟨_, _, rfl⟩, e⟩ | ⟨_, hno, _⟩
    · exact absurd w2.symm hne
    · rw [e]; exact State.fail_eq _ _ hf
    · rw [OverBound, hno] at hover; cases hover

theorem guard_only_then {cfg : Cfg} (hw : WFCfg cfg) {s s' : State} {a : Action} (hr : Reach cfg s)
    (h : step cfg s a = some s') (p : Sid) (he : s'.failed = some (.loop p)) :
    a = .deps p ∧ ∃ c, (s.sims p).pc = .waitDeps c ∧ OverBound cfg c = true :=
  step_err hw (reach_good hw hr) h _ he

theorem substeps_bounded {cfg : Cfg} (hw : WFCfg cfg) {s : State} (hr : Reach cfg s) :
    s.failed = none → ∀ p, ∀ b ∈ (s.sims p).begun, OverBound cfg b = false :=
  begun_ind hw (fun _ _ h => h.noLoop) hr

/-- for a simulator in a group of depth 2 (times `(t, k)`): the sub-steps begun at one time `t` have pairwise different
indices `k`, each below `max_loop_iterations` (so there are at most that many; the count itself is not stated) -/
theorem at_most_bound_substeps {cfg : Cfg} (hw : WFCfg cfg) {s : State} (hr : Reach cfg s) (hnf : s.failed = none)
    (p : Sid) (hp : p < cfg.n) (t : Nat) :
    (((s.sims p).begun.filter fun b => b.length == 2 && b.head? == some t).map fun b => tier b 1).Nodup ∧
    ∀ b ∈ (s.sims p).begun, b.length = 2 → tier b 1 < cfg.maxLoop := by
  have pair : ∀ x : TT, x.length = 2 → ∃ a b, x = [a, b] := fun x h =>
    match x, h with
    | [a, b], _ => ⟨a, b, rfl⟩
  constructor
  · rw [List.nodup_iff_pairwise_ne, List.pairwise_map]
    refine List.Pairwise.imp_of_mem ?_ (((reach_good hw hr hnf).1 p hp).begun_sorted.filter _)
    intro a b ha hb hlt heq
    simp only [List.mem_filter, Bool.and_eq_true, beq_iff_eq] at ha hb
    -- both are `[t, k]` with the same `k`
    obtain ⟨a0, a1, rfl⟩ := pair a ha.2.1
    obtain ⟨b0, b1, rfl⟩ := pair b hb.2.1
    cases ha.2.2
    cases hb.2.2
    cases (heq : a1 = b1)
    exact TT.lt_irrefl _ hlt
  · intro b hb hl
    have := substeps_bounded hw hr hnf p b hb
    obtain ⟨b0, b1, rfl⟩ := pair b hl
    simp only [OverBound, List.tail_cons, List.any_cons, List.any_nil, Bool.or_false, decide_eq_false_iff_not] at this
    exact Nat.lt_of_not_le this

end Mosaik.C09
