/-
The triggering-ancestor table (`World.cache_triggering_ancestors`) holds the true minimum over all trigger paths
(anchor of C05 / C07: `SimRunner.triggering_ancestors`).

For every pop order of the worklist for which the computation succeeds (`anc_table_minimum`):
* every entry `anc[t][s] = d` is the accumulated delay of a real path of trigger connections s → … → t
* for every real trigger path s → … → t with accumulated delay `d` there is an entry `anc[t][s] ≤ d`
hence the entries are the minima over all trigger paths, and the two closure hypotheses of the scheduler theorems
(`WFCfg.direct`, `WFCfg.trans`) hold for the computed table (`anc_direct_trans`).

Hypotheses (about the trigger tables only): delays fit the depths of their simulators (`ShapedT`), triggered simulators
exist (`TrigRange`), and all trigger paths between two simulators have one cutoff (`UniformT`, the complement of finding D7).

The argument is that of `Closure/Complete.lean` with rows and columns exchanged: the table is indexed (destination,
ancestor), a pop of `mid` relaxes the trigger connections *out of* `mid`, and paths grow at the end.
-/
import MosaikProofs.Closure.Complete
namespace Mosaik
open TI

theorem lookupTI_insert_same (l : List (Sid × TI)) (k : Sid) (v : TI) : lookupTI (insertTI l k v) k = some v :=
  assocGet_put_same l k v

theorem lookupTI_insert_ne (l : List (Sid × TI)) (k k' : Sid) (v : TI) (h : k' ≠ k) :
    lookupTI (insertTI l k v) k' = lookupTI l k' :=
  assocGet_put_ne l v h

theorem lookupTI_mem {l : List (Sid × TI)} {k : Sid} {v : TI} (h : lookupTI l k = some v) : (k, v) ∈ l :=
  assocGet_mem h

def AncState.get (st : AncState) (t s : Sid) : Option TI := lookupTI (st.row t) s

/-- `anc[t][s] := v` -/
def AncState.put (st : AncState) (t s : Sid) (v : TI) : AncState := st.setRow t (insertTI (st.row t) s v)

theorem AncState.row_setRow (st : AncState) (t q : Sid) (r : List (Sid × TI)) :
    (st.setRow t r).row q = if q = t ∧ t < st.anc.length then r else st.row q :=
  getD_set ..

theorem AncState.get_put_same (st : AncState) (t s : Sid) (v : TI) (ht : t < st.anc.length) : (st.put t s v).get t s = some v := by
  rw [AncState.get, AncState.put, AncState.row_setRow, if_pos ⟨rfl, ht⟩]
  exact lookupTI_insert_same _ _ _

theorem AncState.get_put_ne (st : AncState) (t s t' s' : Sid) (v : TI) (h : (t', s') ≠ (t, s)) : (st.put t s v).get t' s' = st.get t' s' := by
  rw [AncState.get, AncState.put, AncState.row_setRow]
  split
  · rename_i ht
    cases ht.1
    exact lookupTI_insert_ne _ _ _ _ fun e => h (by rw [e])
  · rfl

theorem AncState.put_length (st : AncState) (t s : Sid) (v : TI) : (st.put t s v).anc.length = st.anc.length := by
  simp [AncState.put, AncState.setRow]

theorem AncState.row_replicate (n : Nat) (dirty : List Sid) (t : Sid) :
    ({ anc := List.replicate n [], dirty := dirty } : AncState).row t = [] :=
  getD_replicate ..

theorem AncState.get_replicate (n : Nat) (dirty : List Sid) (t s : Sid) :
    ({ anc := List.replicate n [], dirty := dirty } : AncState).get t s = none := by
  rw [AncState.get, AncState.row_replicate]
  rfl

theorem AncState.put_dirty (st : AncState) (t s : Sid) (v : TI) : (st.put t s v).dirty = st.dirty := rfl

theorem AncState.get_dirty (st : AncState) (dirty : List Sid) (t s : Sid) : ({ st with dirty := dirty } : AncState).get t s = st.get t s :=
  rfl

theorem AncState.get_put_row (c : AncState) {t x : Sid} (s s' : Sid) (v : TI) (dirty : List Sid) (hx : x ≠ t) :
    ({ (c.put t s v) with dirty := dirty } : AncState).get x s' = c.get x s' := by
  rw [AncState.get_dirty]
  exact AncState.get_put_ne c t s x s' v fun e => hx (congrArg Prod.fst e)

/-- a path of trigger connections with its delay, accumulated the way the worklist does (a connection is appended to a
known path: `src_to_mid + mid_to_dest`) -/
inductive TrigPath (sims : List SimCfg) : Sid → Sid → TI → Prop
  | edge {s : Sid} {tr : Port × Sid × TI} : tr ∈ (sims.getD s {}).triggers → TrigPath sims s tr.2.1 tr.2.2
  | snoc {s m : Sid} {dm : TI} {tr : Port × Sid × TI} : TrigPath sims s m dm → tr ∈ (sims.getD m {}).triggers →
      TrigPath sims s tr.2.1 (TI.add dm tr.2.2)

def ShapedT (sims : List SimCfg) : Prop :=
  ∀ s tr, tr ∈ (sims.getD s {}).triggers → tr.2.2.pre = (sims.getD s {}).depth ∧ tr.2.2.tiers.length = (sims.getD tr.2.1 {}).depth

def TrigRange (sims : List SimCfg) : Prop := ∀ s tr, tr ∈ (sims.getD s {}).triggers → tr.2.1 < sims.length

def UniformT (sims : List SimCfg) : Prop := ∀ s t d d', TrigPath sims s t d → TrigPath sims s t d' → d.cutoff = d'.cutoff

/-- the cutoff of every trigger delay lies within the tiers of its source -/
def CutoffLePreT (sims : List SimCfg) : Prop := ∀ s tr, tr ∈ (sims.getD s {}).triggers → tr.2.2.cutoff ≤ tr.2.2.pre

theorem trigPath_shape {sims : List SimCfg} (hS : ShapedT sims) {s t : Sid} {d : TI} (h : TrigPath sims s t d) :
    d.pre = (sims.getD s {}).depth ∧ d.tiers.length = (sims.getD t {}).depth := by
  induction h with
  | edge he => exact hS _ _ he
  | snoc _ he ih => exact ⟨ih.1, (TI.add_length _ _).trans (hS _ _ he).2⟩

theorem trigPath_sameShape {sims : List SimCfg} (hS : ShapedT sims) (hU : UniformT sims) {s t : Sid} {d d' : TI}
    (h : TrigPath sims s t d) (h' : TrigPath sims s t d') : C08.SameShape d d' := by
  have a := trigPath_shape hS h
  have b := trigPath_shape hS h'
  exact ⟨a.2.trans b.2.symm, a.1.trans b.1.symm, hU _ _ _ _ h h'⟩

def AncReal (sims : List SimCfg) (st : AncState) : Prop := ∀ t s d, st.get t s = some d → TrigPath sims s t d

/-- the trigger connection `tr` of `src` is in the table, with at most its own delay -/
def EdgeOk (st : AncState) (src : Sid) (tr : Port × Sid × TI) : Prop := ∃ e, st.get tr.2.1 src = some e ∧ TI.le e tr.2.2

/-- every trigger connection is in the table, with at most its own delay (`EdgeOk` of each) -/
def EdgeLeA (sims : List SimCfg) (st : AncState) : Prop :=
  ∀ s tr, tr ∈ (sims.getD s {}).triggers → ∃ e, st.get tr.2.1 s = some e ∧ TI.le e tr.2.2

/-- entries only appear or decrease -/
def BelowA (st' st : AncState) : Prop := ∀ t s e, st.get t s = some e → ∃ e', st'.get t s = some e' ∧ TI.le e' e

theorem BelowA.refl (st : AncState) : BelowA st st := fun _ _ e h => ⟨e, h, TI.le_refl _⟩

theorem BelowA.le {st' st : AncState} (hb : BelowA st' st) {t s : Sid} {e x : TI} (he : st.get t s = some e) (hle : TI.le e x) :
    ∃ e', st'.get t s = some e' ∧ TI.le e' x :=
  (hb t s e he).imp fun _ h => ⟨h.1, TI.le_trans h.2 hle⟩

theorem belowA_put {st : AncState} {t s : Sid} {v : TI} (ht : t < st.anc.length) (h : ∀ a, st.get t s = some a → TI.le v a)
    (dirty : List Sid) : BelowA { (st.put t s v) with dirty := dirty } st := by
  intro t' s' e he
  by_cases hk : (t', s') = (t, s)
  · cases hk
    exact ⟨v, AncState.get_put_same st t s v ht, h e he⟩
  · exact ⟨e, (AncState.get_put_ne st t s t' s' v hk).trans he, TI.le_refl _⟩

/-- closedness at one trigger connection `mid → dest` for one ancestor -/
def DestClosedA (st : AncState) (mid : Sid) (tr : Port × Sid × TI) (src : Sid) : Prop :=
  ∀ a, st.get mid src = some a → ∃ e, st.get tr.2.1 src = some e ∧ TI.le e (TI.add a tr.2.2)

def TrClosedA (st : AncState) (mid : Sid) (tr : Port × Sid × TI) : Prop := ∀ src, DestClosedA st mid tr src

def ClosedAtA (sims : List SimCfg) (st : AncState) (mid : Sid) : Prop := ∀ tr, tr ∈ (sims.getD mid {}).triggers → TrClosedA st mid tr

theorem destClosedA_mono {st st' : AncState} {mid : Sid} {tr : Port × Sid × TI} {src : Sid}
    (hrow : ∀ s, st'.get mid s = st.get mid s) (hb : BelowA st' st) (h : DestClosedA st mid tr src) : DestClosedA st' mid tr src := by
  intro a ha
  rw [hrow] at ha
  obtain ⟨e, he, hle⟩ := h a ha
  exact hb.le he hle

theorem edgeOk_below {st st' : AncState} (hb : BelowA st' st) {src : Sid} {tr : Port × Sid × TI} (h : EdgeOk st src tr) : EdgeOk st' src tr :=
  h.elim fun _ he => hb.le he.1 he.2

theorem edgeLeA_below {sims : List SimCfg} {st st' : AncState} (hb : BelowA st' st) (h : EdgeLeA sims st) : EdgeLeA sims st' :=
  fun s tr htr => edgeOk_below hb (h s tr htr)

def ancOne (mid : Sid) (tr : Port × Sid × TI) (st : AncState) (e : Sid × TI) : Except ClosErr AncState :=
  match lookupTI (st.row mid) e.1 with
  | none => .ok st
  | some srcToMid =>
    match TI.add? srcToMid tr.2.2 with
    | none => .error .assertion
    | some s2d =>
      match TI.updateMin? (lookupTI (st.row tr.2.1) e.1) s2d with
      | none => .error .assertion
      | some none => .ok st
      | some (some v) =>
        .ok { (st.setRow tr.2.1 (insertTI (st.row tr.2.1) e.1 v)) with dirty := insertDirty st.dirty tr.2.1 }

theorem ancRelax_eq (sims : List SimCfg) (st : AncState) (mid : Sid) :
    ancRelax sims st mid = (sims.getD mid {}).triggers.foldlM (fun st tr => (st.row mid).foldlM (ancOne mid tr) st) st := rfl

theorem ancOne_spec {sims : List SimCfg} (hS : ShapedT sims) (hU : UniformT sims) {mid : Sid} {tr : Port × Sid × TI}
    (htr : tr ∈ (sims.getD mid {}).triggers) {c : AncState} (e : Sid × TI) (hreal : AncReal sims c) :
    (ancOne mid tr c e = .ok c ∧ DestClosedA c mid tr e.1) ∨
    (∃ a, c.get mid e.1 = some a ∧
      ancOne mid tr c e = .ok { (c.put tr.2.1 e.1 (TI.add a tr.2.2)) with dirty := insertDirty c.dirty tr.2.1 } ∧
      TrigPath sims e.1 tr.2.1 (TI.add a tr.2.2) ∧
      ∀ old, c.get tr.2.1 e.1 = some old → TI.lt (TI.add a tr.2.2) old) := by
  unfold ancOne
  cases hget : lookupTI (c.row mid) e.1 with
  | none => exact Or.inl ⟨rfl, fun a ha => by rw [AncState.get, hget] at ha; cases ha⟩
  | some a =>
    have hareal : TrigPath sims e.1 mid a := hreal mid e.1 a hget
    have hadd : TI.add? a tr.2.2 = some (TI.add a tr.2.2) :=
      add?_eq_some_iff.mpr ⟨by rw [(trigPath_shape hS hareal).2, (hS _ _ htr).1], rfl⟩
    have hnew : TrigPath sims e.1 tr.2.1 (TI.add a tr.2.2) := TrigPath.snoc hareal htr
    simp only [hadd]
    rcases updateMin?_spec (o := c.get tr.2.1 e.1) (fun old ho => trigPath_sameShape hS hU (hreal _ _ _ ho) hnew)
      with ⟨hu, old, ho, hle⟩ | ⟨hu, himp⟩
    · rw [show lookupTI (c.row tr.2.1) e.1 = c.get tr.2.1 e.1 from rfl, hu]
      exact Or.inl ⟨rfl, fun a' ha' => by rw [AncState.get, hget] at ha'; cases ha'; exact ⟨old, ho, hle⟩⟩
    · rw [show lookupTI (c.row tr.2.1) e.1 = c.get tr.2.1 e.1 from rfl, hu]
      exact Or.inr ⟨a, hget, rfl, hnew, himp⟩

structure RInvA (sims : List SimCfg) (mid : Sid) (st0 : AncState) (c : AncState) : Prop where
  real : AncReal sims c
  edge : EdgeLeA sims c
  len : c.anc.length = sims.length
  mono : ∀ x, x ∈ st0.dirty → x ∈ c.dirty
  closed : ∀ x, x ∉ c.dirty → x ≠ mid → ClosedAtA sims c x
  row : mid ∉ c.dirty → ∀ s, c.get mid s = st0.get mid s

theorem ancReal_put {sims : List SimCfg} {c : AncState} (h : AncReal sims c) {t s : Sid} {v : TI} (ht : t < c.anc.length)
    (hv : TrigPath sims s t v) (dirty : List Sid) : AncReal sims { (c.put t s v) with dirty := dirty } := by
  intro t' s' d hd
  rw [AncState.get_dirty] at hd
  by_cases hk : (t', s') = (t, s)
  · cases hk
    rw [AncState.get_put_same c t s v ht] at hd
    cases hd
    exact hv
  · rw [AncState.get_put_ne c t s t' s' v hk] at hd
    exact h t' s' d hd

theorem rinvA_put {sims : List SimCfg} {mid : Sid} {st0 c : AncState} (h : RInvA sims mid st0 c) {src dest : Sid} {v : TI}
    (hd : dest < sims.length) (hv : TrigPath sims src dest v) (hle : ∀ a, c.get dest src = some a → TI.le v a) :
    RInvA sims mid st0 { (c.put dest src v) with dirty := insertDirty c.dirty dest } := by
  have hlen : dest < c.anc.length := Nat.lt_of_lt_of_eq hd h.len.symm
  have hb : BelowA { (c.put dest src v) with dirty := insertDirty c.dirty dest } c := belowA_put hlen hle _
  constructor
  case real => exact ancReal_put h.real hlen hv _
  case edge => exact edgeLeA_below hb h.edge
  case len => exact (AncState.put_length c dest src v).trans h.len
  case mono => exact fun x hx => mem_insertDirty_of_mem (h.mono x hx)
  case closed =>
    intro x hx hxm tr htr s
    obtain ⟨hxc, hxd⟩ := not_mem_insertDirty hx
    exact destClosedA_mono (fun s' => c.get_put_row src s' v _ hxd) hb (h.closed x hxc hxm tr htr s)
  case row =>
    intro hm s
    obtain ⟨hmc, hmd⟩ := not_mem_insertDirty hm
    rw [c.get_put_row src s v _ hmd]
    exact h.row hmc s

/-- the inner loop (one trigger connection `tr` of `mid`, all ancestors in `mid`'s row) -/
theorem innerA_inv {sims : List SimCfg} (hS : ShapedT sims) (hR : TrigRange sims) (hU : UniformT sims) {mid : Sid} {st0 : AncState}
    {tr : Port × Sid × TI} (htr : tr ∈ (sims.getD mid {}).triggers) (doneOuter : List (Port × Sid × TI)) {c0 c : AncState}
    (h0 : RInvA sims mid st0 c0) (hp0 : mid ∉ c0.dirty → ∀ tr' ∈ doneOuter, TrClosedA c0 mid tr')
    (hf : (c0.row mid).foldlM (ancOne mid tr) c0 = .ok c) :
    RInvA sims mid st0 c ∧ (mid ∉ c.dirty → ∀ tr' ∈ tr :: doneOuter, TrClosedA c mid tr') := by
  let P : List (Sid × TI) → AncState → Prop := fun done c =>
    RInvA sims mid st0 c ∧ (∀ x, x ∈ c0.dirty → x ∈ c.dirty) ∧
      (mid ∉ c.dirty → (∀ tr' ∈ doneOuter, TrClosedA c mid tr') ∧ ∀ e ∈ done, DestClosedA c mid tr e.1)
  have key := foldlM_inv_done P (ancOne mid tr) (c0.row mid) [] c0 c
    ⟨h0, fun _ h => h, fun hm => ⟨hp0 hm, fun e he => by cases he⟩⟩ ?_ hf
  · obtain ⟨hr, hmono, hcl⟩ := key
    refine ⟨hr, fun hm tr' htr' => ?_⟩
    obtain ⟨hout, hdone⟩ := hcl hm
    rcases List.mem_cons.mp htr' with rfl | htr'
    · intro src a hget
      have hm0 : mid ∉ c0.dirty := fun h => hm (hmono _ h)
      have hrow : c0.get mid src = some a := by rw [h0.row hm0, ← hr.row hm]; exact hget
      exact hdone (src, a) (mem_done (lookupTI_mem hrow)) a hget
    · exact hout tr' htr'
  · intro done b e b' _ hP hg
    obtain ⟨hr, hmono, hcl⟩ := hP
    rcases ancOne_spec hS hU htr e hr.real with ⟨h, hdc⟩ | ⟨a, hget, h, hnew, himp⟩
    · cases h.symm.trans hg
      refine ⟨hr, hmono, fun hm => ?_⟩
      obtain ⟨hout, hdone⟩ := hcl hm
      exact ⟨hout, List.forall_mem_cons.mpr ⟨hdc, hdone⟩⟩
    · cases h.symm.trans hg
      have hle : ∀ old, b.get tr.2.1 e.1 = some old → TI.le (TI.add a tr.2.2) old := fun old ho => TI.le_of_lt (himp old ho)
      have hd : tr.2.1 < sims.length := hR mid tr htr
      refine ⟨rinvA_put hr hd hnew hle, fun x hx => mem_insertDirty_of_mem (hmono x hx), fun hm => ?_⟩
      replace hm := not_mem_insertDirty hm
      obtain ⟨hout, hdone⟩ := hcl hm.1
      have hlen : tr.2.1 < b.anc.length := Nat.lt_of_lt_of_eq hd hr.len.symm
      have hb : BelowA { (b.put tr.2.1 e.1 (TI.add a tr.2.2)) with dirty := insertDirty b.dirty tr.2.1 } b := belowA_put hlen hle _
      have hrow : ∀ s, ({ (b.put tr.2.1 e.1 (TI.add a tr.2.2)) with dirty := insertDirty b.dirty tr.2.1 } : AncState).get mid s = b.get mid s :=
        fun s => b.get_put_row e.1 s _ _ hm.2
      refine ⟨fun tr' htr' src => destClosedA_mono hrow hb (hout tr' htr' src),
        List.forall_mem_cons.mpr ⟨fun a' ha' => ?_, fun e' he' => destClosedA_mono hrow hb (hdone e' he')⟩⟩
      rw [hrow, hget] at ha'
      cases ha'
      exact ⟨_, AncState.get_put_same b tr.2.1 e.1 _ hlen, TI.le_refl _⟩

theorem ancRelax_inv {sims : List SimCfg} (hS : ShapedT sims) (hR : TrigRange sims) (hU : UniformT sims) {mid : Sid} {st0 st' : AncState}
    (h0 : RInvA sims mid st0 st0) (hr : ancRelax sims st0 mid = .ok st') :
    RInvA sims mid st0 st' ∧ (mid ∉ st'.dirty → ClosedAtA sims st' mid) := by
  rw [ancRelax_eq] at hr
  let P : List (Port × Sid × TI) → AncState → Prop := fun done c =>
    RInvA sims mid st0 c ∧ (mid ∉ c.dirty → ∀ tr' ∈ done, TrClosedA c mid tr')
  have key := foldlM_inv_done P _ (sims.getD mid {}).triggers [] st0 st' ⟨h0, fun _ tr' h => by cases h⟩ ?_ hr
  · obtain ⟨hrinv, hcl⟩ := key
    exact ⟨hrinv, fun hm tr htr => hcl hm tr (mem_done htr)⟩
  · intro done b tr b' htr hP hg
    exact innerA_inv hS hR hU htr done hP.1 hP.2 hg

structure LInvA (sims : List SimCfg) (st : AncState) : Prop where
  real : AncReal sims st
  edge : EdgeLeA sims st
  len : st.anc.length = sims.length
  closed : ∀ x, x ∉ st.dirty → ClosedAtA sims st x

theorem ancLoop_inv {sims : List SimCfg} (hS : ShapedT sims) (hR : TrigRange sims) (hU : UniformT sims) (fuel : Nat)
    (st st' : AncState) (orc : List Nat) (h : LInvA sims st) (hr : ancLoop sims fuel st orc = .ok st') :
    LInvA sims st' ∧ st'.dirty = [] := by
  rw [ancLoop_eq] at hr
  refine wlLoop_inv _ _ _ (LInvA sims) (fun st mid rest st1 h hp hrel => ?_) _ _ _ _ h hr
  have h0 : RInvA sims mid { st with dirty := rest } { st with dirty := rest } :=
    { real := h.real, edge := h.edge, len := h.len, mono := fun _ hx => hx, row := fun _ _ => rfl
      closed := fun x hx hxm => h.closed x fun hd => hx (hp x hd hxm) }
  obtain ⟨hr1, hmid⟩ := ancRelax_inv hS hR hU h0 hrel
  refine { real := hr1.real, edge := hr1.edge, len := hr1.len, closed := fun x hx => ?_ }
  by_cases hxm : x = mid
  · subst hxm
    exact hmid hx
  · exact hr1.closed x hx hxm

theorem stored_le_trigPath {sims : List SimCfg} {st : AncState} (hedge : EdgeLeA sims st) (hcl : ∀ x, ClosedAtA sims st x)
    {s t : Sid} {d : TI} (h : TrigPath sims s t d) : ∃ e, st.get t s = some e ∧ TI.le e d := by
  induction h with
  | edge he => exact hedge _ _ he
  | @snoc m dm tr hpath he ih =>
    obtain ⟨e, hget, hle⟩ := ih
    obtain ⟨e', hget', hle'⟩ := hcl m tr he s e hget
    exact ⟨e', hget', TI.le_trans hle' (TI.add_mono_left tr.2.2 hle)⟩

/-! ### the first loop: direct triggers -/

def initOne (src : Sid) (st : AncState) (tr : Port × Sid × TI) : Except ClosErr AncState :=
  match TI.updateMin? (lookupTI (st.row tr.2.1) src) tr.2.2 with
  | none => .error .assertion
  | some none => .ok { st with dirty := insertDirty st.dirty tr.2.1 }
  | some (some v) => .ok { (st.setRow tr.2.1 (insertTI (st.row tr.2.1) src v)) with dirty := insertDirty st.dirty tr.2.1 }

theorem ancInit_eq (sims : List SimCfg) :
    ancInit sims = (List.range sims.length).foldlM (fun st src => (sims.getD src {}).triggers.foldlM (initOne src) st)
      { anc := List.replicate sims.length [], dirty := [] } := rfl

structure IInv (sims : List SimCfg) (st : AncState) : Prop where
  real : AncReal sims st
  len : st.anc.length = sims.length
  marked : ∀ t s a, st.get t s = some a → t ∈ st.dirty

theorem initOne_step {sims : List SimCfg} (hS : ShapedT sims) (hR : TrigRange sims) (hU : UniformT sims) {src : Sid}
    {tr : Port × Sid × TI} (htr : tr ∈ (sims.getD src {}).triggers) {st st' : AncState} (h : IInv sims st)
    (hg : initOne src st tr = .ok st') :
    IInv sims st' ∧ BelowA st' st ∧ EdgeOk st' src tr := by
  have hlen : tr.2.1 < st.anc.length := Nat.lt_of_lt_of_eq (hR src tr htr) h.len.symm
  have hedge : TrigPath sims src tr.2.1 tr.2.2 := TrigPath.edge htr
  unfold initOne at hg
  rw [show lookupTI (st.row tr.2.1) src = st.get tr.2.1 src from rfl] at hg
  rcases updateMin?_spec (o := st.get tr.2.1 src) (fun old ho => trigPath_sameShape hS hU (h.real _ _ _ ho) hedge)
    with ⟨hu, old, ho, hle⟩ | ⟨hu, himp⟩
  · rw [hu] at hg
    cases hg
    have hi : IInv sims { st with dirty := insertDirty st.dirty tr.2.1 } :=
      { real := h.real, len := h.len, marked := fun t s a ha => mem_insertDirty_of_mem (h.marked t s a ha) }
    exact ⟨hi, BelowA.refl st, old, ho, hle⟩
  · rw [hu] at hg
    cases hg
    refine ⟨{ real := ancReal_put h.real hlen hedge _, len := (AncState.put_length st tr.2.1 src tr.2.2).trans h.len, marked := ?_ },
      belowA_put hlen (fun a ha => TI.le_of_lt (himp a ha)) _, tr.2.2, AncState.get_put_same st tr.2.1 src tr.2.2 hlen, TI.le_refl _⟩
    -- an entry of the new table is the one just stored, whose row is marked now, or an old one, whose row was marked
    intro t s a ha
    by_cases hk : (t, s) = (tr.2.1, src)
    · cases hk; exact mem_insertDirty.mpr (Or.inr rfl)
    · replace ha : (st.put tr.2.1 src tr.2.2).get t s = some a := ha
      rw [AncState.get_put_ne _ _ _ _ _ _ hk] at ha
      exact mem_insertDirty_of_mem (h.marked t s a ha)

theorem mem_triggers_lt {sims : List SimCfg} {s : Sid} {tr : Port × Sid × TI} (h : tr ∈ (sims.getD s {}).triggers) : s < sims.length :=
  lt_of_mem_getD SimCfg.triggers h rfl

theorem trigPath_src_lt {sims : List SimCfg} {s t : Sid} {d : TI} (h : TrigPath sims s t d) : s < sims.length := by
  induction h with
  | edge he => exact mem_triggers_lt he
  | snoc _ _ ih => exact ih

theorem ancInit_inv {sims : List SimCfg} (hS : ShapedT sims) (hR : TrigRange sims) (hU : UniformT sims) {st : AncState}
    (h : ancInit sims = .ok st) : LInvA sims st := by
  rw [ancInit_eq] at h
  let P : List Sid → AncState → Prop := fun done st =>
    IInv sims st ∧ ∀ src ∈ done, ∀ tr ∈ (sims.getD src {}).triggers, EdgeOk st src tr
  have key := foldlM_inv_done P _ (List.range sims.length) [] _ st ?_ ?_ h
  · obtain ⟨hi, hdone⟩ := key
    refine { real := hi.real, len := hi.len, edge := ?_, closed := ?_ }
    · intro s tr htr
      exact hdone s (mem_done (List.mem_range.mpr (mem_triggers_lt htr))) tr htr
    · intro x hx tr _ s a ha
      exact absurd (hi.marked x s a ha) hx
  · refine ⟨{ len := List.length_replicate, real := ?_, marked := ?_ }, fun src h => by cases h⟩
    · intro t s d hd
      rw [AncState.get_replicate] at hd
      cases hd
    · intro t s a ha
      rw [AncState.get_replicate] at ha
      cases ha
  · intro done b src b' _ hP hg
    let Q : List (Port × Sid × TI) → AncState → Prop := fun doneTr st =>
      IInv sims st ∧ (∀ src' ∈ done, ∀ tr ∈ (sims.getD src' {}).triggers, EdgeOk st src' tr) ∧ ∀ tr ∈ doneTr, EdgeOk st src tr
    have key2 := foldlM_inv_done Q (initOne src) (sims.getD src {}).triggers [] b b' ⟨hP.1, hP.2, fun _ h => by cases h⟩ ?_ hg
    · obtain ⟨hi, hold, hnew⟩ := key2
      exact ⟨hi, List.forall_mem_cons.mpr ⟨fun tr htr => hnew tr (mem_done htr), hold⟩⟩
    · intro doneTr c tr c' htr hQ hg1
      obtain ⟨hi, hold, hnew⟩ := hQ
      obtain ⟨hi', hb, hok⟩ := initOne_step hS hR hU htr hi hg1
      exact ⟨hi', fun src' hs' tr' htr' => edgeOk_below hb (hold src' hs' tr' htr'),
        List.forall_mem_cons.mpr ⟨hok, fun tr' htr' => edgeOk_below hb (hnew tr' htr')⟩⟩

theorem cta_ok {sims out : List SimCfg} {orc : List Nat} (h : cacheTriggeringAncestors sims orc = .ok out) :
    ∃ st0 st, ancInit sims = .ok st0 ∧ ancLoop sims (closureFuel sims.length) st0 orc = .ok st ∧
      out = sims.zipIdx.map fun (s, i) => { s with trigAnc := st.row i } := by
  unfold cacheTriggeringAncestors at h
  split at h
  · cases h
  · split at h
    · cases h
    · cases h
      exact ⟨_, _, ‹_›, ‹_›, rfl⟩

theorem cta_getD (sims : List SimCfg) (st : AncState) (p : Sid) :
    (sims.zipIdx.map fun (s, i) => { s with trigAnc := st.row i }).getD p {} =
      { sims.getD p {} with trigAnc := if p < sims.length then st.row p else [] } := by
  rw [List.getD_eq_getElem?_getD, List.getElem?_map, List.getElem?_zipIdx, List.getD_eq_getElem?_getD]
  by_cases hp : p < sims.length
  · rw [List.getElem?_eq_getElem hp, if_pos hp, Nat.zero_add]; rfl
  · rw [List.getElem?_eq_none (Nat.le_of_not_lt hp), if_neg hp]; rfl

/-- **the triggering-ancestor table is the minimum over all trigger paths**, for every pop order for which the
computation succeeds -/
theorem anc_table_minimum (sims : List SimCfg) (orc : List Nat) (hS : ShapedT sims) (hR : TrigRange sims) (hU : UniformT sims)
    {out : List SimCfg} (h : cacheTriggeringAncestors sims orc = .ok out) :
    (∀ t, t < sims.length → ∀ s d, lookupTI (out.getD t {}).trigAnc s = some d → TrigPath sims s t d) ∧
    (∀ s t d, TrigPath sims s t d → ∃ e, lookupTI (out.getD t {}).trigAnc s = some e ∧ TI.le e d) := by
  obtain ⟨st0, st, hi, hl, rfl⟩ := cta_ok h
  obtain ⟨hinv, hempty⟩ := ancLoop_inv hS hR hU _ _ _ _ (ancInit_inv hS hR hU hi) hl
  constructor
  · intro t ht s d hd
    rw [cta_getD, if_pos ht] at hd
    exact hinv.real t s d hd
  · intro s t d hp
    have ht : t < sims.length := by
      cases hp with
      | edge he => exact hR _ _ he
      | snoc _ he => exact hR _ _ he
    rw [cta_getD, if_pos ht]
    exact stored_le_trigPath hinv.edge (fun x => hinv.closed x (by rw [hempty]; simp)) hp

theorem trigPath_cons {sims : List SimCfg} (hS : ShapedT sims) (hW : ∀ s tr, tr ∈ (sims.getD s {}).triggers → tr.2.2.cutoff ≤ tr.2.2.pre)
    {p : Sid} {tr : Port × Sid × TI} (htr : tr ∈ (sims.getD p {}).triggers) {q : Sid} {bd : TI} (h : TrigPath sims tr.2.1 q bd) :
    TrigPath sims p q (TI.add tr.2.2 bd) := by
  induction h with
  | edge he => exact TrigPath.snoc (TrigPath.edge htr) he
  | @snoc m dm tr' hpath he ih =>
    have hc : tr'.2.2.cutoff ≤ dm.tiers.length := by
      rw [(trigPath_shape hS hpath).2, ← (hS _ _ he).1]
      exact hW _ _ he
    rw [← TI.add_assoc tr.2.2 dm tr'.2.2 hc]
    exact TrigPath.snoc ih he

theorem anc_direct_trans (sims : List SimCfg) (orc : List Nat) (hS : ShapedT sims) (hR : TrigRange sims) (hU : UniformT sims)
    (hW : ∀ s tr, tr ∈ (sims.getD s {}).triggers → tr.2.2.cutoff ≤ tr.2.2.pre)
    {out : List SimCfg} (h : cacheTriggeringAncestors sims orc = .ok out) :
    (∀ p tr, tr ∈ (sims.getD p {}).triggers → ∃ ad ∈ (out.getD tr.2.1 {}).trigAnc, ad.1 = p ∧ TI.le ad.2 tr.2.2) ∧
    (∀ p tr, tr ∈ (sims.getD p {}).triggers → ∀ q, q < sims.length → ∀ bd, lookupTI (out.getD q {}).trigAnc tr.2.1 = some bd →
      ∃ ad ∈ (out.getD q {}).trigAnc, ad.1 = p ∧ TI.le ad.2 (TI.add tr.2.2 bd)) := by
  obtain ⟨hreal, hcomp⟩ := anc_table_minimum sims orc hS hR hU h
  constructor
  · intro p tr htr
    obtain ⟨e, he, hle⟩ := hcomp p tr.2.1 tr.2.2 (TrigPath.edge htr)
    exact ⟨(p, e), lookupTI_mem he, rfl, hle⟩
  · intro p tr htr q hq bd hbd
    have hpath := trigPath_cons hS hW htr (hreal q hq tr.2.1 bd hbd)
    obtain ⟨e, he, hle⟩ := hcomp p q _ hpath
    exact ⟨(p, e), lookupTI_mem he, rfl, hle⟩

theorem shapedTB_sound {sims : List SimCfg} (h : shapedTB sims = true) : ShapedT sims ∧ TrigRange sims ∧ CutoffLePreT sims := by
  have key : ∀ s tr, tr ∈ (sims.getD s {}).triggers →
      (tr.2.2.pre = (sims.getD s {}).depth ∧ tr.2.2.tiers.length = (sims.getD tr.2.1 {}).depth) ∧ tr.2.1 < sims.length ∧
        tr.2.2.cutoff ≤ tr.2.2.pre := by
    intro s tr htr
    have := all_range_all h (mem_triggers_lt htr) htr
    simp only [Bool.and_eq_true, beq_iff_eq, decide_eq_true_eq] at this
    obtain ⟨⟨hshape, hcut⟩, hrange⟩ := this
    exact ⟨hshape, hrange, hcut⟩
  exact ⟨fun s tr htr => (key s tr htr).1, fun s tr htr => (key s tr htr).2.1, fun s tr htr => (key s tr htr).2.2⟩

theorem trigPath_cutoff_const {sims : List SimCfg} {c : Nat} (hc : ∀ s tr, tr ∈ (sims.getD s {}).triggers → tr.2.2.cutoff = c)
    {s t : Sid} {d : TI} (h : TrigPath sims s t d) : d.cutoff = c := by
  induction h with
  | edge he => exact hc _ _ he
  | snoc _ he ih => rw [TI.add_cutoff, ih, hc _ _ he, Nat.min_self]

theorem constCutoffTB_sound {sims : List SimCfg} (h : constCutoffTB sims = true) : UniformT sims := by
  have hc : ∀ s tr, tr ∈ (sims.getD s {}).triggers → tr.2.2.cutoff = (((sims.flatMap (·.triggers)).head?).map (·.2.2.cutoff)).getD 1 := by
    intro s tr htr
    simpa using all_range_all h (mem_triggers_lt htr) htr
  exact fun _ _ _ _ h1 h2 => (trigPath_cutoff_const hc h1).trans (trigPath_cutoff_const hc h2).symm

end Mosaik
