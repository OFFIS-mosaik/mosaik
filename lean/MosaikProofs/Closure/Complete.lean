/-
Completeness of `ensure_no_dataflow_cycles` (C06, "no false acceptance").

When the worklist empties without an assertion, the table is closed under relaxation
(`ClosedAt`: for every connection src → mid and every stored delay mid → dest the stored delay
src → dest is at most their sum), whatever the pop order was.  By induction on a path the stored delay
is then at most the accumulated delay of *every* real path (`stored_le_path`), so a cycle whose
delays sum to all-zero forces an all-zero stored delay and the final scan rejects (`accept_complete`).

Hypotheses (all three are about the connection tables, none about the run):
* `Shaped`   the delay of a connection src → dest can be added to times of src's depth and yields dest's depth
             (what `connect_interval` builds)
* `NodupKeys` `input_delays` is a dict: one delay per predecessor
* `Uniform`  all paths between the same two simulators have the same cutoff.  This is exactly the complement of
             finding D7-reentrant-paths: with two cutoffs the delays are not totally ordered, `update_min`
             compares incomparable values and the result (and termination) depends on the pop order.

Both closures go through `update_min`; `updateMin?_spec` says all it does on delays of one shape, and
`relaxOne_spec` all that one inner iteration of the cycle check does on a table of real paths.
-/
import MosaikProofs.Closure.Sound
import MosaikProofs.Properties.C08
namespace Mosaik
open TI

theorem Descs.get?_set_same (d : Descs) (s t : Sid) (v : TI × List Sid) : (d.set s t v).get? s t = some v :=
  assocGet_put_same d (s, t) v

theorem Descs.get?_set_ne (d : Descs) {s t s' t' : Sid} (v : TI × List Sid) (h : (s', t') ≠ (s, t)) :
    (d.set s t v).get? s' t' = d.get? s' t' :=
  assocGet_put_ne d v h

theorem Descs.get?_set_row (d : Descs) {s s' : Sid} (t t' : Sid) (v : TI × List Sid) (h : s' ≠ s) :
    (d.set s t v).get? s' t' = d.get? s' t' :=
  Descs.get?_set_ne d v fun e => h (congrArg Prod.fst e)

theorem Descs.mem_row_of_get? {d : Descs} {s t : Sid} {v : TI × List Sid} (h : d.get? s t = some v) :
    (t, v.1, v.2) ∈ d.row s := by
  have hm := Descs.get?_mem h
  unfold Descs.row
  rw [List.mem_map]
  exact ⟨((s, t), v), List.mem_filter.mpr ⟨hm, by simp⟩, rfl⟩

/-- the delay of a connection src → dest fits the two simulators' depths -/
def Shaped (sims : List SimCfg) : Prop :=
  ∀ t s d, (s, d) ∈ (sims.getD t {}).inputDelays → d.pre = (sims.getD s {}).depth ∧ d.tiers.length = (sims.getD t {}).depth

/-- `input_delays` is a dict -/
def NodupKeys (sims : List SimCfg) : Prop := ∀ t, ((sims.getD t {}).inputDelays.map (·.1)).Nodup

/-- every connection's source is a simulator (for built scenarios: `Build.BuiltOk.inShape`) -/
def SrcRange (sims : List SimCfg) : Prop := ∀ t s d, (s, d) ∈ (sims.getD t {}).inputDelays → s < sims.length

/-- all paths between two simulators have the same cutoff (the complement of finding D7) -/
def Uniform (sims : List SimCfg) : Prop :=
  ∀ s t p d p' d', RealPath sims s t p d → RealPath sims s t p' d' → d.cutoff = d'.cutoff

theorem mem_inputDelays_lt {sims : List SimCfg} {t : Sid} {sd : Sid × TI} (h : sd ∈ (sims.getD t {}).inputDelays) : t < sims.length :=
  lt_of_mem_getD SimCfg.inputDelays h rfl

theorem realPath_shape {sims : List SimCfg} (hS : Shaped sims) {s t : Sid} {p : List Sid} {d : TI}
    (h : RealPath sims s t p d) : d.pre = (sims.getD s {}).depth ∧ d.tiers.length = (sims.getD t {}).depth := by
  induction h with
  | edge he => exact hS _ _ _ he
  | cons he _ ih => exact ⟨(hS _ _ _ he).1, (TI.add_length _ _).trans ih.2⟩

theorem realPath_sameShape {sims : List SimCfg} (hS : Shaped sims) (hU : Uniform sims) {s t : Sid} {p p' : List Sid} {d d' : TI}
    (h : RealPath sims s t p d) (h' : RealPath sims s t p' d') : C08.SameShape d d' := by
  have a := realPath_shape hS h
  have b := realPath_shape hS h'
  exact ⟨a.2.trans b.2.symm, a.1.trans b.1.symm, hU _ _ _ _ _ _ h h'⟩

theorem realPath_dest_lt {sims : List SimCfg} {s t : Sid} {p : List Sid} {d : TI} (h : RealPath sims s t p d) : t < sims.length := by
  induction h with
  | edge he => exact mem_inputDelays_lt he
  | cons _ _ ih => exact ih

theorem updateMin?_spec {o : Option TI} {n : TI} (h : ∀ a, o = some a → C08.SameShape a n) :
    (TI.updateMin? o n = some none ∧ ∃ a, o = some a ∧ TI.le a n) ∨
    (TI.updateMin? o n = some (some n) ∧ ∀ a, o = some a → TI.lt n a) := by
  cases o with
  | none => exact Or.inr ⟨rfl, fun _ ha => by cases ha⟩
  | some a =>
    have hs := h a rfl
    rw [C08.update_min_spec hs]
    by_cases hlt : n.tiers < a.tiers
    · refine Or.inr ⟨by rw [if_pos hlt], fun a' ha' => ?_⟩
      cases ha'
      exact ⟨hs.pre.symm, hs.cutoff.symm, hs.length.symm, hlt⟩
    · exact Or.inl ⟨by rw [if_neg hlt], a, rfl, hs.pre, hs.cutoff, hs.length, TT.not_lt.mp hlt⟩

/-- closedness of the table at one connection `s → mid` (delay `w`) for one destination -/
def DestClosed (d : Descs) (mid s : Sid) (w : TI) (dest : Sid) : Prop :=
  ∀ m, d.get? mid dest = some m → ∃ e, d.get? s dest = some e ∧ TI.le e.1 (TI.add w m.1)

def PairClosed (d : Descs) (mid : Sid) (sd : Sid × TI) : Prop := ∀ dest, DestClosed d mid sd.1 sd.2 dest

def ClosedAt (sims : List SimCfg) (d : Descs) (mid : Sid) : Prop :=
  ∀ sd, sd ∈ (sims.getD mid {}).inputDelays → PairClosed d mid sd

/-- every connection is in the table, with at most its own delay -/
def EdgeLe (sims : List SimCfg) (d : Descs) : Prop :=
  ∀ t s w, (s, w) ∈ (sims.getD t {}).inputDelays → ∃ e, d.get? s t = some e ∧ TI.le e.1 w

/-- entries only appear or decrease -/
def Below (d' d : Descs) : Prop := ∀ s t e, d.get? s t = some e → ∃ e', d'.get? s t = some e' ∧ TI.le e'.1 e.1

theorem Below.refl (d : Descs) : Below d d := fun _ _ e h => ⟨e, h, TI.le_refl _⟩

theorem Below.trans {a b c : Descs} (h1 : Below a b) (h2 : Below b c) : Below a c := by
  intro s t e he
  obtain ⟨e1, h1e, hle1⟩ := h2 s t e he
  obtain ⟨e2, h2e, hle2⟩ := h1 s t e1 h1e
  exact ⟨e2, h2e, TI.le_trans hle2 hle1⟩

theorem Below.le {d' d : Descs} (hb : Below d' d) {s t : Sid} {e : TI × List Sid} {x : TI} (he : d.get? s t = some e)
    (hle : TI.le e.1 x) : ∃ e', d'.get? s t = some e' ∧ TI.le e'.1 x :=
  (hb s t e he).imp fun _ h => ⟨h.1, TI.le_trans h.2 hle⟩

theorem below_set {d : Descs} {s t : Sid} {v : TI × List Sid} (h : ∀ a, d.get? s t = some a → TI.le v.1 a.1) :
    Below (d.set s t v) d := by
  intro s' t' e he
  by_cases hk : (s', t') = (s, t)
  · cases hk
    exact ⟨v, Descs.get?_set_same _ _ _ _, h e he⟩
  · exact ⟨e, by rw [Descs.get?_set_ne _ _ hk]; exact he, TI.le_refl _⟩

theorem destClosed_mono {d d' : Descs} {mid s : Sid} {w : TI} {dest : Sid} (hrow : ∀ t, d'.get? mid t = d.get? mid t)
    (hb : Below d' d) (h : DestClosed d mid s w dest) : DestClosed d' mid s w dest := by
  intro m hm
  rw [hrow] at hm
  obtain ⟨e, he, hle⟩ := h m hm
  exact hb.le he hle

theorem edgeLe_below {sims : List SimCfg} {d d' : Descs} (hb : Below d' d) (h : EdgeLe sims d) : EdgeLe sims d' := by
  intro t s w hw
  obtain ⟨e, he, hle⟩ := h t s w hw
  exact hb.le he hle

theorem relaxOne_spec {sims : List SimCfg} (hS : Shaped sims) (hU : Uniform sims) {mid : Sid} {sd : Sid × TI}
    (hsd : sd ∈ (sims.getD mid {}).inputDelays) {c : CycState} (e : Sid × TI × List Sid) (hreal : AllReal sims c.descs) :
    (relaxOne mid sd c e = .ok c ∧ DestClosed c.descs mid sd.1 sd.2 e.1) ∨
    (∃ m path, c.descs.get? mid e.1 = some (m, path) ∧
      relaxOne mid sd c e =
        .ok { descs := c.descs.set sd.1 e.1 (TI.add sd.2 m, sd.1 :: path), dirty := insertDirty c.dirty sd.1 } ∧
      RealPath sims sd.1 e.1 (sd.1 :: path) (TI.add sd.2 m) ∧
      ∀ a, c.descs.get? sd.1 e.1 = some a → TI.lt (TI.add sd.2 m) a.1) := by
  unfold relaxOne
  cases hget : c.descs.get? mid e.1 with
  | none => exact Or.inl ⟨rfl, fun m hm => by rw [hget] at hm; cases hm⟩
  | some v =>
    obtain ⟨m, path⟩ := v
    have hmreal : RealPath sims mid e.1 path m := hreal _ (Descs.get?_mem hget)
    have hadd : TI.add? sd.2 m = some (TI.add sd.2 m) :=
      add?_eq_some_iff.mpr ⟨by rw [(hS _ _ _ hsd).2, (realPath_shape hS hmreal).1], rfl⟩
    have hnew : RealPath sims sd.1 e.1 (sd.1 :: path) (TI.add sd.2 m) := RealPath.cons hsd hmreal
    have hshape : ∀ a, (c.descs.get? sd.1 e.1).map (·.1) = some a → C08.SameShape a (TI.add sd.2 m) := by
      intro a ha
      obtain ⟨a', ha', rfl⟩ := Option.map_eq_some_iff.mp ha
      exact realPath_sameShape hS hU (hreal _ (Descs.get?_mem ha')) hnew
    simp only [hadd]
    rcases updateMin?_spec hshape with ⟨hu, a, ha, hle⟩ | ⟨hu, himp⟩
    · rw [hu]
      obtain ⟨a', ha', rfl⟩ := Option.map_eq_some_iff.mp ha
      exact Or.inl ⟨rfl, fun m' hm' => by rw [hget] at hm'; cases hm'; exact ⟨a', ha', hle⟩⟩
    · rw [hu]
      exact Or.inr ⟨m, path, rfl, rfl, hnew, fun a ha => himp a.1 (by rw [ha]; rfl)⟩

/-- what holds while the connections into the popped simulator `mid` are relaxed; `d0` is the table and `dirty0` the
worklist when the relaxation started -/
structure RInv (sims : List SimCfg) (mid : Sid) (d0 : Descs) (dirty0 : List Sid) (c : CycState) : Prop where
  real : AllReal sims c.descs
  edge : EdgeLe sims c.descs
  mono : ∀ x, x ∈ dirty0 → x ∈ c.dirty
  closed : ∀ x, x ∉ c.dirty → x ≠ mid → ClosedAt sims c.descs x
  row : mid ∉ c.dirty → ∀ dest, c.descs.get? mid dest = d0.get? mid dest

theorem rinv_set {sims : List SimCfg} {mid : Sid} {d0 : Descs} {dirty0 : List Sid} {c : CycState} (h : RInv sims mid d0 dirty0 c)
    {src dest : Sid} {v : TI × List Sid} (hv : RealPath sims src dest v.2 v.1)
    (hle : ∀ a, c.descs.get? src dest = some a → TI.le v.1 a.1) :
    RInv sims mid d0 dirty0 { descs := c.descs.set src dest v, dirty := insertDirty c.dirty src } := by
  have hb : Below (c.descs.set src dest v) c.descs := below_set hle
  constructor
  case real => exact allReal_set h.real hv
  case edge => exact edgeLe_below hb h.edge
  case mono => exact fun x hx => mem_insertDirty_of_mem (h.mono x hx)
  case closed =>
    intro x hx hxm sd hsd dest'
    obtain ⟨hxc, hxs⟩ := not_mem_insertDirty hx
    exact destClosed_mono (fun t => Descs.get?_set_row _ _ t _ hxs) hb (h.closed x hxc hxm sd hsd dest')
  case row =>
    intro hm dest'
    obtain ⟨hmc, hms⟩ := not_mem_insertDirty hm
    rw [Descs.get?_set_row _ _ _ _ hms]
    exact h.row hmc dest'

/-- the inner loop (one connection `sd` into `mid`, all entries of `mid`'s row): afterwards the table is closed at
this connection unless `mid` became dirty again -/
theorem inner_inv {sims : List SimCfg} (hS : Shaped sims) (hU : Uniform sims) {mid : Sid} {d0 : Descs} {dirty0 : List Sid}
    {sd : Sid × TI} (hsd : sd ∈ (sims.getD mid {}).inputDelays) (doneOuter : List (Sid × TI)) {c0 c : CycState}
    (h0 : RInv sims mid d0 dirty0 c0) (hp0 : mid ∉ c0.dirty → ∀ sd' ∈ doneOuter, PairClosed c0.descs mid sd')
    (hf : (c0.descs.row mid).foldlM (relaxOne mid sd) c0 = .ok c) :
    RInv sims mid d0 dirty0 c ∧ (mid ∉ c.dirty → ∀ sd' ∈ sd :: doneOuter, PairClosed c.descs mid sd') := by
  let P : List (Sid × TI × List Sid) → CycState → Prop := fun done c =>
    RInv sims mid d0 dirty0 c ∧ (∀ x, x ∈ c0.dirty → x ∈ c.dirty) ∧
      (mid ∉ c.dirty → (∀ sd' ∈ doneOuter, PairClosed c.descs mid sd') ∧ ∀ e ∈ done, DestClosed c.descs mid sd.1 sd.2 e.1)
  have key := foldlM_inv_done P (relaxOne mid sd) (c0.descs.row mid) [] c0 c
    ⟨h0, fun _ h => h, fun hm => ⟨hp0 hm, fun e he => by cases he⟩⟩ ?_ hf
  · obtain ⟨hr, hmono, hcl⟩ := key
    refine ⟨hr, fun hm sd' hsd' => ?_⟩
    obtain ⟨hout, hdone⟩ := hcl hm
    rcases List.mem_cons.mp hsd' with rfl | hsd'
    · -- `mid` is clean, so its row is what it was at the start and every entry of it was visited
      intro dest m hget
      have hm0 : mid ∉ c0.dirty := fun h => hm (hmono _ h)
      have hrow : c0.descs.get? mid dest = some m := by rw [h0.row hm0, ← hr.row hm]; exact hget
      exact hdone (dest, m.1, m.2) (mem_done (Descs.mem_row_of_get? hrow)) m hget
    · exact hout sd' hsd'
  · intro done b e b' _ hP hg
    obtain ⟨hr, hmono, hcl⟩ := hP
    rcases relaxOne_spec hS hU hsd e hr.real with ⟨h, hdc⟩ | ⟨m, path, hget, h, hnew, himp⟩
    · cases h.symm.trans hg
      refine ⟨hr, hmono, fun hm => ?_⟩
      obtain ⟨hout, hdone⟩ := hcl hm
      exact ⟨hout, List.forall_mem_cons.mpr ⟨hdc, hdone⟩⟩
    · cases h.symm.trans hg
      have hle : ∀ a, b.descs.get? sd.1 e.1 = some a → TI.le (TI.add sd.2 m) a.1 := fun a ha => TI.le_of_lt (himp a ha)
      refine ⟨rinv_set hr (v := (TI.add sd.2 m, sd.1 :: path)) hnew hle,
        fun x hx => mem_insertDirty_of_mem (hmono x hx), fun hm => ?_⟩
      replace hm := not_mem_insertDirty hm
      obtain ⟨hout, hdone⟩ := hcl hm.1
      have hb : Below (b.descs.set sd.1 e.1 (TI.add sd.2 m, sd.1 :: path)) b.descs := below_set hle
      have hrow : ∀ t, (b.descs.set sd.1 e.1 (TI.add sd.2 m, sd.1 :: path)).get? mid t = b.descs.get? mid t :=
        fun t => Descs.get?_set_row _ _ t _ hm.2
      refine ⟨fun sd' hsd' dest => destClosed_mono hrow hb (hout sd' hsd' dest),
        List.forall_mem_cons.mpr ⟨fun m' hm' => ?_, fun e' he' => destClosed_mono hrow hb (hdone e' he')⟩⟩
      rw [hrow, hget] at hm'
      cases hm'
      exact ⟨_, Descs.get?_set_same _ _ _ _, TI.le_refl _⟩

theorem cycRelax_inv {sims : List SimCfg} (hS : Shaped sims) (hU : Uniform sims) {mid : Sid} {st0 st' : CycState}
    (h0 : RInv sims mid st0.descs st0.dirty st0) (hr : cycRelax sims st0 mid = .ok st') :
    RInv sims mid st0.descs st0.dirty st' ∧ (mid ∉ st'.dirty → ClosedAt sims st'.descs mid) := by
  rw [cycRelax_eq] at hr
  let P : List (Sid × TI) → CycState → Prop := fun done c =>
    RInv sims mid st0.descs st0.dirty c ∧ (mid ∉ c.dirty → ∀ sd' ∈ done, PairClosed c.descs mid sd')
  have key := foldlM_inv_done P _ (sims.getD mid {}).inputDelays [] st0 st' ⟨h0, fun _ sd' h => by cases h⟩ ?_ hr
  · obtain ⟨hrinv, hcl⟩ := key
    exact ⟨hrinv, fun hm sd hsd => hcl hm sd (mem_done hsd)⟩
  · intro done b sd b' hsd hP hg
    exact inner_inv hS hU hsd done hP.1 hP.2 hg

/-- the worklist invariant: every simulator that is not dirty is closed -/
structure LInv (sims : List SimCfg) (st : CycState) : Prop where
  real : AllReal sims st.descs
  edge : EdgeLe sims st.descs
  closed : ∀ x, x ∉ st.dirty → ClosedAt sims st.descs x

theorem cycLoop_inv {sims : List SimCfg} (hS : Shaped sims) (hU : Uniform sims) (fuel : Nat) (st st' : CycState)
    (orc : List Nat) (h : LInv sims st) (hr : cycLoop sims fuel st orc = .ok st') : LInv sims st' ∧ st'.dirty = [] := by
  rw [cycLoop_eq] at hr
  refine wlLoop_inv _ _ _ (LInv sims) (fun st mid rest st1 h hp hrel => ?_) _ _ _ _ h hr
  -- one pop: `mid` leaves the worklist, so closedness is only known away from `mid` until its relaxation is through
  have h0 : RInv sims mid st.descs rest { st with dirty := rest } :=
    { real := h.real, edge := h.edge, mono := fun _ hx => hx, row := fun _ _ => rfl
      closed := fun x hx hxm => h.closed x fun hd => hx (hp x hd hxm) }
  obtain ⟨hr1, hmid⟩ := cycRelax_inv hS hU (st0 := { st with dirty := rest }) h0 hrel
  refine { real := hr1.real, edge := hr1.edge, closed := fun x hx => ?_ }
  by_cases hxm : x = mid
  · subst hxm
    exact hmid hx
  · exact hr1.closed x hx hxm

theorem stored_le_path {sims : List SimCfg} {d : Descs} (hedge : EdgeLe sims d) (hcl : ∀ x, ClosedAt sims d x)
    {s t : Sid} {p : List Sid} {dl : TI} (h : RealPath sims s t p dl) : ∃ e, d.get? s t = some e ∧ TI.le e.1 dl := by
  induction h with
  | edge he => exact hedge _ _ _ he
  | @cons s m t w dm path he _ ih =>
    obtain ⟨e, hget, hle⟩ := ih
    obtain ⟨e', hget', hle'⟩ := hcl m (s, w) he t e hget
    exact ⟨e', hget', TI.le_trans hle' (TI.add_mono_right w hle)⟩

theorem initRow_spec (dst : Sid) (ps : List (Sid × TI)) (acc : Descs) (hnd : (ps.map (·.1)).Nodup) :
    (∀ pd ∈ ps, (ps.foldl (fun acc pd => acc.set pd.1 dst (pd.2, [pd.1, dst])) acc).get? pd.1 dst = some (pd.2, [pd.1, dst])) ∧
    (∀ s t, t ≠ dst →
      (ps.foldl (fun acc pd => acc.set pd.1 dst (pd.2, [pd.1, dst])) acc).get? s t = acc.get? s t) := by
  constructor
  · intro pd hpd
    obtain ⟨pre, rest, rfl⟩ := List.append_of_mem hpd
    rw [List.map_append, List.map_cons, List.nodup_append, List.nodup_cons] at hnd
    -- the binder type `Sid × TI` is to be given: left to unification against `Descs.set`, it makes this step very slow
    exact assocGet_foldl_put_last (fun pd : Sid × TI => (pd.1, dst)) (fun pd => (pd.2, [pd.1, dst])) pre pd rest acc
      fun f hf heq => hnd.2.1.1 (congrArg Prod.fst heq ▸ List.mem_map_of_mem hf)
  · intro s t hst
    refine assocGet_foldl_put_other (fun pd : Sid × TI => (pd.1, dst)) (fun pd => (pd.2, [pd.1, dst])) ps acc (s, t) fun e _ heq => ?_
    cases heq
    exact hst rfl

theorem init_spec (sims : List SimCfg) (hN : NodupKeys sims) (l : List Nat) : ∀ (acc : Descs), l.Nodup →
    (∀ t ∈ l, ∀ pd ∈ (sims.getD t {}).inputDelays,
      (l.foldl (fun (acc : Descs) dst =>
        (sims.getD dst {}).inputDelays.foldl (fun acc pd => acc.set pd.1 dst (pd.2, [pd.1, dst])) acc) acc).get? pd.1 t
        = some (pd.2, [pd.1, t])) ∧
    (∀ s t, t ∉ l →
      (l.foldl (fun (acc : Descs) dst =>
        (sims.getD dst {}).inputDelays.foldl (fun acc pd => acc.set pd.1 dst (pd.2, [pd.1, dst])) acc) acc).get? s t = acc.get? s t) := by
  induction l with
  | nil => exact fun _ _ => ⟨fun _ h => (nomatch h), fun _ _ _ => rfl⟩
  | cons dst l ih =>
    intro acc hnd
    rw [List.nodup_cons] at hnd
    obtain ⟨r1, r2⟩ := initRow_spec dst (sims.getD dst {}).inputDelays acc (hN dst)
    obtain ⟨ih1, ih2⟩ := ih ((sims.getD dst {}).inputDelays.foldl (fun acc pd => acc.set pd.1 dst (pd.2, [pd.1, dst])) acc) hnd.2
    rw [List.foldl_cons]
    constructor
    · intro t ht pd hpd
      rcases List.mem_cons.mp ht with rfl | ht
      · rw [ih2 _ _ hnd.1]
        exact r1 pd hpd
      · exact ih1 t ht pd hpd
    · intro s t ht
      rw [List.mem_cons, not_or] at ht
      rw [ih2 s t ht.2]
      exact r2 s t ht.1

theorem cycInit_inv (sims : List SimCfg) (hN : NodupKeys sims) : LInv sims (cycInit sims) := by
  refine { real := cycInit_real sims, edge := ?_, closed := ?_ }
  · intro t s w hw
    obtain ⟨h1, _⟩ := init_spec sims hN (List.range sims.length) [] List.nodup_range
    exact ⟨_, h1 t (List.mem_range.mpr (mem_inputDelays_lt hw)) (s, w) hw, TI.le_refl _⟩
  · intro x hx sd hsd
    exact absurd (List.mem_range.mpr (mem_inputDelays_lt hsd)) hx

theorem no_zero_cycle_of_loop {sims : List SimCfg} (hS : Shaped sims) (hN : NodupKeys sims) (hU : Uniform sims)
    {fuel : Nat} {orc : List Nat} {st : CycState} (hl : cycLoop sims fuel (cycInit sims) orc = .ok st)
    (hf : cycFind sims.length st.descs = none) : ∀ s p d, RealPath sims s s p d → d.isZero = false := by
  intro s p d hp
  obtain ⟨hinv, hempty⟩ := cycLoop_inv hS hU _ _ _ _ (cycInit_inv sims hN) hl
  obtain ⟨e, hget, hle⟩ := stored_le_path hinv.edge (fun x => hinv.closed x (by rw [hempty]; simp)) hp
  -- the stored delay is at most the cycle's; were the cycle all-zero, so would it be, and the scan would have found it
  have hez := (cycFind_eq_none_iff _ _).mp hf s (realPath_dest_lt hp) e.1 e.2 hget
  cases hz : d.isZero with
  | false => rfl
  | true => rw [TI.isZero_of_le hle hz] at hez; cases hez

/-- **C06, no false acceptance.**  If `ensure_no_dataflow_cycles` accepts the scenario — for whatever pop order of the
worklist — then no cycle of connections has an all-zero accumulated delay. -/
theorem accept_complete (sims : List SimCfg) (orc : List Nat) (hS : Shaped sims) (hN : NodupKeys sims) (hU : Uniform sims)
    (h : ensureNoCycles sims orc = .ok) : ∀ s p d, RealPath sims s s p d → d.isZero = false := by
  obtain ⟨st, hl, hf⟩ := ensureNoCyclesWith_ok h
  exact no_zero_cycle_of_loop hS hN hU hl hf

theorem cycle_check_exact_with {fuel : Nat} (sims : List SimCfg) (orc : List Nat) (hS : Shaped sims) (hN : NodupKeys sims) (hU : Uniform sims)
    (hdec : ∀ e, ensureNoCyclesWith fuel sims orc ≠ .error e) :
    (ensureNoCyclesWith fuel sims orc = .ok ∨ ∃ p, ensureNoCyclesWith fuel sims orc = .cycle p) ∧
    ((∃ p, ensureNoCyclesWith fuel sims orc = .cycle p) ↔ ∃ s p d, RealPath sims s s p d ∧ d.isZero = true) := by
  cases hres : ensureNoCyclesWith fuel sims orc with
  | error e => exact absurd hres (hdec e)
  | cycle q =>
    obtain ⟨s, d, _, hreal, hz⟩ := reject_sound_with fuel sims orc q hres
    exact ⟨Or.inr ⟨q, rfl⟩, fun _ => ⟨s, q, d, hreal, hz⟩, fun _ => ⟨q, rfl⟩⟩
  | ok =>
    obtain ⟨st, hl, hfind⟩ := ensureNoCyclesWith_ok hres
    refine ⟨Or.inl rfl, ⟨fun ⟨p, hp⟩ => (nomatch hp), fun ⟨s, p, d, hreal, hz⟩ => ?_⟩⟩
    rw [no_zero_cycle_of_loop hS hN hU hl hfind s p d hreal] at hz
    cases hz

theorem cycRelax_ok {sims : List SimCfg} (hS : Shaped sims) (hU : Uniform sims) (st : CycState) (mid : Sid)
    (hreal : AllReal sims st.descs) : ∃ st', cycRelax sims st mid = .ok st' ∧ AllReal sims st'.descs := by
  rw [cycRelax_eq]
  refine foldlM_ok (fun c => AllReal sims c.descs) _ _ st hreal fun b sd hsd hb => ?_
  refine foldlM_ok (fun c => AllReal sims c.descs) _ _ b hb fun c e _ hc => ?_
  rcases relaxOne_spec hS hU hsd e hc with ⟨h, _⟩ | ⟨m, path, _, h, hnew, _⟩
  · exact ⟨_, h, hc⟩
  · exact ⟨_, h, allReal_set hc hnew⟩

theorem cycLoop_no_assertion {sims : List SimCfg} (hS : Shaped sims) (hU : Uniform sims) (fuel : Nat) (st : CycState)
    (orc : List Nat) (h : AllReal sims st.descs) : cycLoop sims fuel st orc ≠ .error .assertion := by
  rw [cycLoop_eq]
  exact wlLoop_no_assertion _ _ _ (fun s => AllReal sims s.descs)
    (fun st mid rest h => cycRelax_ok hS hU { st with dirty := rest } mid h) _ _ _ h

/-- on well-shaped uniform tables no assert of the delay arithmetic can fire in the cycle check (they are what finding
D7 is about): the only error left is the model's own fuel bound -/
theorem no_assertion_uniform (sims : List SimCfg) (orc : List Nat) (hS : Shaped sims) (hU : Uniform sims) :
    ensureNoCycles sims orc ≠ .error .assertion :=
  fun h => cycLoop_no_assertion hS hU _ _ _ (cycInit_real sims) (ensureNoCyclesWith_error h)

theorem realPath_cutoff_const {sims : List SimCfg} {c : Nat} (hc : ∀ t s d, (s, d) ∈ (sims.getD t {}).inputDelays → d.cutoff = c)
    {s t : Sid} {p : List Sid} {d : TI} (h : RealPath sims s t p d) : d.cutoff = c := by
  induction h with
  | edge he => exact hc _ _ _ he
  | cons he _ ih => rw [TI.add_cutoff, hc _ _ _ he, ih, Nat.min_self]

/-- all connections have the same cutoff (e.g. a scenario without groups: every cutoff is 1) -/
theorem uniform_of_const_cutoff {sims : List SimCfg} {c : Nat}
    (hc : ∀ t s d, (s, d) ∈ (sims.getD t {}).inputDelays → d.cutoff = c) : Uniform sims :=
  fun _ _ _ _ _ _ h h' => (realPath_cutoff_const hc h).trans (realPath_cutoff_const hc h').symm

theorem shapedB_sound {sims : List SimCfg} (h : shapedB sims = true) : Shaped sims := by
  intro t s d hd
  simpa using all_range_all h (mem_inputDelays_lt hd) hd

theorem nodupKeysB_sound {sims : List SimCfg} (h : nodupKeysB sims = true) : NodupKeys sims := by
  intro t
  by_cases ht : t < sims.length
  · unfold nodupKeysB at h
    rw [List.all_eq_true] at h
    simpa using h t (List.mem_range.mpr ht)
  · rw [getD_of_ge _ (Nat.le_of_not_lt ht)]
    exact List.nodup_nil

theorem constCutoffB_sound {sims : List SimCfg} (h : constCutoffB sims = true) : Uniform sims := by
  apply uniform_of_const_cutoff (c := (((sims.flatMap (·.inputDelays)).head?).map (·.2.cutoff)).getD 1)
  intro t s d hd
  simpa using all_range_all h (mem_inputDelays_lt hd) hd

theorem uniformB_sound {sims : List SimCfg} (h : uniformB sims = true) : Uniform sims := by
  unfold uniformB at h
  cases hp : cutTables sims with
  | mk lo hi =>
  rw [hp] at h
  simp only [Bool.and_eq_true] at h
  obtain ⟨hclosed, heq⟩ := h
  have hE : ∀ m sd, sd ∈ (sims.getD m {}).inputDelays →
      (sd.1 < sims.length ∧ lo.get sd.1 m ≠ 0 ∧ lo.get sd.1 m ≤ sd.2.cutoff ∧ sd.2.cutoff ≤ hi.get sd.1 m) ∧
      ∀ t, t < sims.length → lo.get m t ≠ 0 →
        lo.get sd.1 t ≠ 0 ∧ lo.get sd.1 t ≤ min sd.2.cutoff (lo.get m t) ∧ min sd.2.cutoff (hi.get m t) ≤ hi.get sd.1 t := by
    intro m sd hsd
    have h2 := all_range_all hclosed (mem_inputDelays_lt hsd) hsd
    simp only [Bool.and_eq_true, bne_iff_ne, ne_eq, decide_eq_true_eq, List.all_eq_true, List.mem_range, Bool.or_eq_true, beq_iff_eq] at h2
    obtain ⟨⟨⟨⟨hsrc, hknown⟩, hlo⟩, hhi⟩, hfront⟩ := h2
    refine ⟨⟨hsrc, hknown, hlo, hhi⟩, fun t ht hne => ?_⟩
    rcases hfront t ht with h0 | ⟨⟨hknown', hlo'⟩, hhi'⟩
    · exact absurd h0 hne
    · exact ⟨hknown', hlo', hhi'⟩
  have min_mono : ∀ {c x y : Nat}, x ≤ y → min c x ≤ min c y := fun hxy =>
    Nat.le_min.mpr ⟨Nat.min_le_left _ _, Nat.le_trans (Nat.min_le_right _ _) hxy⟩
  have hpath : ∀ {s t : Sid} {p : List Sid} {d : TI}, RealPath sims s t p d →
      s < sims.length ∧ lo.get s t ≠ 0 ∧ lo.get s t ≤ d.cutoff ∧ d.cutoff ≤ hi.get s t := by
    intro s t p d hr
    induction hr with
    | edge he => exact (hE _ _ he).1
    | @cons s m t d dm path he hrest ih =>
      obtain ⟨⟨hs, _⟩, hfront⟩ := hE m (s, d) he
      obtain ⟨_, hrest0, hrestLo, hrestHi⟩ := ih
      obtain ⟨hknown, hlo, hhi⟩ := hfront t (realPath_dest_lt hrest) hrest0
      -- the cutoff of the sum is the smaller of the two cutoffs: the table's bounds are those of the rest under `min d.cutoff`
      exact ⟨hs, hknown, Nat.le_trans hlo (min_mono hrestLo), Nat.le_trans (min_mono hrestHi) hhi⟩
  intro s t p d p' d' h1 h2
  have a := hpath h1
  have b := hpath h2
  have e := all_range_all heq a.1 (List.mem_range.mpr (realPath_dest_lt h1))
  simp only [beq_iff_eq] at e
  omega

/-- a bound on the depths, for the termination measure of `Closure/Terminate.lean`: one more than their sum (the default configuration of a non-simulator has depth 1) -/
theorem depth_le_sum (sims : List SimCfg) (t : Sid) : (sims.getD t {}).depth ≤ 1 + (sims.map (·.depth)).sum := by
  induction sims generalizing t with
  | nil => exact Nat.le_add_right 1 _
  | cons a l ih =>
    rw [List.map_cons, List.sum_cons]
    cases t with
    | zero => exact Nat.le_trans (Nat.le_add_right _ _) (Nat.le_add_left _ _)
    | succ t => exact Nat.le_trans (ih t) (Nat.add_le_add_left (Nat.le_add_left _ _) 1)

end Mosaik
