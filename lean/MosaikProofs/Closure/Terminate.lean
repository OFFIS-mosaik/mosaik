/-
Termination of the worklists of `ensure_no_dataflow_cycles` (C06) and `cache_triggering_ancestors`.

The executable model iterates the relaxation with fuel (`cycLoop`, error `.fuel` when the fuel runs out — a model artefact);
`accept_complete` / `reject_sound` are about runs in which the worklist empties.  Here: on well-shaped tables with uniform
path cutoffs (`Shaped`, `Uniform` — the complement of finding D7) and sources in range **the worklist empties for every
oracle** (a finite list of pop indices, continued with index 0): from some amount of fuel on `cycLoop` never answers `.fuel`.

No polynomial bound is claimed (label-correcting relaxation with an adversarial pop order has none): the argument is a
well-founded descent (`wlLoop_terminates`).  Measure: the table as a function `Fin n → Fin n → WithTop (Lex (Fin K → ℕ))`
(no entry = ⊤, an entry = its tiers, compared lexicographically) under the product order, which is well-founded (Mathlib:
`Pi.wellFoundedLT`, `Pi.Lex.wellFoundedLT`, `WithTop`).  Every store of `update_min` strictly decreases one component and
leaves the others alone; a pop that stores nothing shortens the worklist.

This is the one file of the closures that imports Mathlib, for that order.  In it `≤` on `List ℕ` is Mathlib's instance and
not the one the model's `TI.le` uses: facts about `≤` on tiers belong in the files below.
-/
import Mathlib.Data.DFinsupp.WellFounded
import MosaikProofs.Closure.AncTable
namespace Mosaik

abbrev Meas (n K : ℕ) := Fin n → Fin n → WithTop (Lex (Fin K → ℕ))

def tierFn (K : ℕ) (l : List Nat) : Lex (Fin K → ℕ) := toLex fun j => tier l j.1

def meas (n K : ℕ) (d : Descs) : Meas n K := fun s t =>
  match d.get? s.1 t.1 with
  | none => ⊤
  | some e => ((tierFn K e.1.tiers : Lex (Fin K → ℕ)) : WithTop (Lex (Fin K → ℕ)))

theorem tierFn_lt {K : ℕ} {a b : List Nat} (hl : a.length = b.length) (hK : a.length ≤ K) (h : a < b) :
    tierFn K a < tierFn K b := by
  obtain ⟨i, hi, hpre, hlt⟩ := (TT.lt_iff_of_length_eq hl).mp h
  exact ⟨⟨i, Nat.lt_of_lt_of_le hi hK⟩, fun j hj => hpre j.1 hj, hlt⟩

theorem Meas.lt_of_lt_at {n K : ℕ} {g f : Meas n K} (s t : Fin n) (hat : g s t < f s t)
    (hother : ∀ s' t', (s', t') ≠ (s, t) → g s' t' = f s' t') : g < f := by
  have hle : ∀ s' t', g s' t' ≤ f s' t' := fun s' t' => by
    by_cases h : (s', t') = (s, t)
    · cases h; exact le_of_lt hat
    · exact le_of_eq (hother s' t' h)
  exact Pi.lt_def.mpr ⟨fun s' => Pi.le_def.mpr (hle s'), s, Pi.lt_def.mpr ⟨hle s, t, hat⟩⟩

theorem meas_set_lt {n K : ℕ} (d : Descs) {s t : Sid} (hs : s < n) (ht : t < n) (v : TI × List Sid)
    (h : ∀ a, d.get? s t = some a → v.1.tiers < a.1.tiers ∧ v.1.tiers.length = a.1.tiers.length ∧ v.1.tiers.length ≤ K) :
    meas n K (d.set s t v) < meas n K d := by
  refine Meas.lt_of_lt_at ⟨s, hs⟩ ⟨t, ht⟩ ?_ fun s' t' hne => ?_
  · have hnew : (d.set s t v).get? s t = some v := Descs.get?_set_same d s t v
    unfold meas
    simp only [hnew]
    cases hold : d.get? s t with
    | none => exact WithTop.coe_lt_top _
    | some a =>
      obtain ⟨hlt, hl, hK⟩ := h a hold
      exact WithTop.coe_lt_coe.mpr (tierFn_lt hl hK hlt)
  · unfold meas
    rw [Descs.get?_set_ne _ _ (fun e => hne (by cases s'; cases t'; cases e; rfl))]

theorem eq_or_lt_trans {σ M : Type} [Preorder M] {μ : σ → M} {a b c : σ} (h1 : b = a ∨ μ b < μ a) (h2 : c = b ∨ μ c < μ b) :
    c = a ∨ μ c < μ a := by
  rcases h2 with rfl | h2
  · exact h1
  · rcases h1 with rfl | h1
    · exact Or.inr h2
    · exact Or.inr (lt_trans h2 h1)

/-- progress of the relaxation: nothing stored, or the measure strictly smaller -/
def Prog (n K : ℕ) (c0 c : CycState) : Prop := c = c0 ∨ meas n K c.descs < meas n K c0.descs

theorem Prog.refl {n K : ℕ} (c : CycState) : Prog n K c c := Or.inl rfl

theorem Prog.trans {n K : ℕ} {a b c : CycState} (h1 : Prog n K a b) (h2 : Prog n K b c) : Prog n K a c :=
  eq_or_lt_trans (μ := fun c : CycState => meas n K c.descs) h1 h2

theorem relaxOne_prog {sims : List SimCfg} (hS : Shaped sims) (hU : Uniform sims) (hR : SrcRange sims) {K : ℕ}
    (hK : ∀ t, (sims.getD t {}).depth ≤ K) {mid : Sid} {sd : Sid × TI}
    (hsd : sd ∈ (sims.getD mid {}).inputDelays) {c : CycState} (e : Sid × TI × List Sid) (hreal : AllReal sims c.descs) :
    ∃ c', relaxOne mid sd c e = .ok c' ∧ AllReal sims c'.descs ∧ Prog sims.length K c c' := by
  rcases relaxOne_spec hS hU hsd e hreal with ⟨h, _⟩ | ⟨m, path, _, h, hnew, himp⟩
  · exact ⟨_, h, hreal, Prog.refl c⟩
  · refine ⟨_, h, allReal_set hreal hnew, Or.inr ?_⟩
    refine meas_set_lt c.descs (hR _ _ _ hsd) (realPath_dest_lt hnew) _ fun a ha => ?_
    exact ⟨(himp a ha).2.2.2, (himp a ha).2.2.1, by rw [(realPath_shape hS hnew).2]; exact hK _⟩

theorem cycRelax_prog {sims : List SimCfg} (hS : Shaped sims) (hU : Uniform sims) (hR : SrcRange sims) {K : ℕ}
    (hK : ∀ t, (sims.getD t {}).depth ≤ K) (st : CycState) (mid : Sid) (hreal : AllReal sims st.descs) :
    ∃ st', cycRelax sims st mid = .ok st' ∧ AllReal sims st'.descs ∧ Prog sims.length K st st' := by
  rw [cycRelax_eq]
  refine foldlM_ok (fun c => AllReal sims c.descs ∧ Prog sims.length K st c) _ _ st ⟨hreal, Prog.refl st⟩ fun b sd hsd hb => ?_
  refine foldlM_ok (fun c => AllReal sims c.descs ∧ Prog sims.length K st c) _ _ b hb fun c e _ hc => ?_
  obtain ⟨c', h, hreal', hprog⟩ := relaxOne_prog hS hU hR hK hsd e hc.1
  exact ⟨c', h, hreal', hc.2.trans hprog⟩

/-- **the worklist empties**: from every state whose entries are real paths, for every oracle, there is an amount of fuel
from which on the loop ends, with an empty worklist -/
theorem cycLoop_ends {sims : List SimCfg} (hS : Shaped sims) (hU : Uniform sims) (hR : SrcRange sims) {K : ℕ}
    (hK : ∀ t, (sims.getD t {}).depth ≤ K) (st : CycState) (hreal : AllReal sims st.descs) (orc : List Nat) :
    ∃ k, ∀ fuel, k ≤ fuel → ∃ st', cycLoop sims fuel st orc = .ok st' ∧ st'.dirty = [] := by
  rw [cycLoop_eq]
  exact wlLoop_terminates CycState.dirty (fun st r => { st with dirty := r }) (cycRelax sims) wellFounded_lt
    (fun c => meas sims.length K c.descs) (fun c => AllReal sims c.descs) (fun _ _ h => ⟨h, rfl, rfl⟩)
    (fun c mid h => cycRelax_prog hS hU hR hK c mid h) st hreal orc

theorem cycLoop_terminates {sims : List SimCfg} (hS : Shaped sims) (hU : Uniform sims) (hR : SrcRange sims) {K : ℕ}
    (hK : ∀ t, (sims.getD t {}).depth ≤ K) :
    ∀ (M : Meas sims.length K) (L : ℕ) (st : CycState), AllReal sims st.descs → meas sims.length K st.descs = M →
      st.dirty.length = L → ∀ orc, ∃ k, ∀ fuel, k ≤ fuel → cycLoop sims fuel st orc ≠ .error .fuel := by
  intro _ _ st hreal _ _ orc
  obtain ⟨k, hk⟩ := cycLoop_ends hS hU hR hK st hreal orc
  refine ⟨k, fun fuel hf h => ?_⟩
  obtain ⟨st', h', _⟩ := hk fuel hf
  rw [h'] at h
  cases h

/-- **`ensure_no_dataflow_cycles` terminates**: on well-shaped, uniform tables with sources in range, for every oracle the
worklist of the cycle check empties — with enough fuel the model never answers `.error .fuel` (what the driver reports as
`nonterminating`) -/
theorem worklist_terminates (sims : List SimCfg) (orc : List Nat) (hS : Shaped sims) (hU : Uniform sims) (hR : SrcRange sims) :
    ∃ k, ∀ fuel, k ≤ fuel → cycLoop sims fuel (cycInit sims) orc ≠ .error .fuel :=
  cycLoop_terminates hS hU hR (depth_le_sum sims) _ _ (cycInit sims) (cycInit_real sims) rfl rfl orc

/-- **the cycle check is total and exact** (every oracle): from some amount of fuel on the check answers —
never an assertion, never "out of fuel" — and rejects exactly the scenarios with a cycle of connections whose accumulated delay
is all-zero -/
theorem cycle_check_total_exact (sims : List SimCfg) (orc : List Nat) (hS : Shaped sims) (hN : NodupKeys sims) (hU : Uniform sims)
    (hR : SrcRange sims) :
    ∃ k, ∀ fuel, k ≤ fuel →
      (ensureNoCyclesWith fuel sims orc = .ok ∨ ∃ p, ensureNoCyclesWith fuel sims orc = .cycle p) ∧
      ((∃ p, ensureNoCyclesWith fuel sims orc = .cycle p) ↔ ∃ s p d, RealPath sims s s p d ∧ d.isZero = true) := by
  obtain ⟨k, hk⟩ := worklist_terminates sims orc hS hU hR
  refine ⟨k, fun fuel hf => cycle_check_exact_with sims orc hS hN hU fun e h => ?_⟩
  have hl := ensureNoCyclesWith_error h
  cases e with
  | assertion => exact cycLoop_no_assertion hS hU fuel _ orc (cycInit_real sims) hl
  | fuel => exact hk fuel hf hl

/-! ### the worklist of `cache_triggering_ancestors`

The same descent for the second closure; the table is indexed (destination, ancestor). -/

def measA (n K : ℕ) (st : AncState) : Meas n K := fun t s =>
  match st.get t.1 s.1 with
  | none => ⊤
  | some d => ((tierFn K d.tiers : Lex (Fin K → ℕ)) : WithTop (Lex (Fin K → ℕ)))

theorem measA_put_lt {n K : ℕ} (c : AncState) {t s : Sid} (ht : t < n) (hs : s < n) (hlen : c.anc.length = n) (v : TI)
    (dirty : List Sid)
    (h : ∀ a, c.get t s = some a → v.tiers < a.tiers ∧ v.tiers.length = a.tiers.length ∧ v.tiers.length ≤ K) :
    measA n K { (c.put t s v) with dirty := dirty } < measA n K c := by
  refine Meas.lt_of_lt_at ⟨t, ht⟩ ⟨s, hs⟩ ?_ fun t' s' hne => ?_
  · have hnew : (c.put t s v).get t s = some v := AncState.get_put_same c t s v (by rw [hlen]; exact ht)
    unfold measA
    simp only [AncState.get_dirty, hnew]
    cases hold : c.get t s with
    | none => exact WithTop.coe_lt_top _
    | some a =>
      obtain ⟨hlt, hl, hK⟩ := h a hold
      exact WithTop.coe_lt_coe.mpr (tierFn_lt hl hK hlt)
  · unfold measA
    rw [AncState.get_dirty, AncState.get_put_ne _ _ _ _ _ _ (fun e => hne (by cases t'; cases s'; cases e; rfl))]

def ProgA (n K : ℕ) (c0 c : AncState) : Prop := c = c0 ∨ measA n K c < measA n K c0

theorem ProgA.refl {n K : ℕ} (c : AncState) : ProgA n K c c := Or.inl rfl

theorem ProgA.trans {n K : ℕ} {a b c : AncState} (h1 : ProgA n K a b) (h2 : ProgA n K b c) : ProgA n K a c :=
  eq_or_lt_trans (μ := measA n K) h1 h2

/-- what the descent carries along: entries are real trigger paths, one row per simulator -/
def AncOk (sims : List SimCfg) (c : AncState) : Prop := AncReal sims c ∧ c.anc.length = sims.length

theorem ancOne_prog {sims : List SimCfg} (hS : ShapedT sims) (hR : TrigRange sims) (hU : UniformT sims) {K : ℕ}
    (hK : ∀ t, (sims.getD t {}).depth ≤ K) {mid : Sid} {tr : Port × Sid × TI}
    (htr : tr ∈ (sims.getD mid {}).triggers) {c : AncState} (e : Sid × TI) (hok : AncOk sims c) :
    ∃ c', ancOne mid tr c e = .ok c' ∧ AncOk sims c' ∧ ProgA sims.length K c c' := by
  obtain ⟨hreal, hlen⟩ := hok
  rcases ancOne_spec hS hU htr e hreal with ⟨h, _⟩ | ⟨a, _, h, hnew, himp⟩
  · exact ⟨_, h, ⟨hreal, hlen⟩, ProgA.refl c⟩
  · refine ⟨_, h, ⟨ancReal_put hreal (by rw [hlen]; exact hR _ _ htr) hnew _, by rw [← hlen]; exact AncState.put_length c _ _ _⟩, Or.inr ?_⟩
    refine measA_put_lt c (hR _ _ htr) (trigPath_src_lt hnew) hlen _ _ fun old ho => ?_
    exact ⟨(himp old ho).2.2.2, (himp old ho).2.2.1, by rw [(trigPath_shape hS hnew).2]; exact hK _⟩

theorem ancRelax_prog {sims : List SimCfg} (hS : ShapedT sims) (hR : TrigRange sims) (hU : UniformT sims) {K : ℕ}
    (hK : ∀ t, (sims.getD t {}).depth ≤ K) (st : AncState) (mid : Sid) (hok : AncOk sims st) :
    ∃ st', ancRelax sims st mid = .ok st' ∧ AncOk sims st' ∧ ProgA sims.length K st st' := by
  rw [ancRelax_eq]
  refine foldlM_ok (fun c => AncOk sims c ∧ ProgA sims.length K st c) _ _ st ⟨hok, ProgA.refl st⟩ fun b tr htr hb => ?_
  refine foldlM_ok (fun c => AncOk sims c ∧ ProgA sims.length K st c) _ _ b hb fun c e _ hc => ?_
  obtain ⟨c', h, hok', hprog⟩ := ancOne_prog hS hR hU hK htr e hc.1
  exact ⟨c', h, hok', hc.2.trans hprog⟩

/-- **the second worklist empties** as well, for every oracle -/
theorem ancLoop_terminates {sims : List SimCfg} (hS : ShapedT sims) (hR : TrigRange sims) (hU : UniformT sims) {K : ℕ}
    (hK : ∀ t, (sims.getD t {}).depth ≤ K) :
    ∀ (M : Meas sims.length K) (L : ℕ) (st : AncState), AncOk sims st → measA sims.length K st = M →
      st.dirty.length = L → ∀ orc, ∃ k, ∀ fuel, k ≤ fuel → ∃ st', ancLoop sims fuel st orc = .ok st' := by
  intro _ _ st hok _ _ orc
  rw [ancLoop_eq]
  obtain ⟨k, hk⟩ := wlLoop_terminates AncState.dirty (fun st r => { st with dirty := r }) (ancRelax sims) wellFounded_lt
    (measA sims.length K) (AncOk sims) (fun _ _ h => ⟨h, rfl, rfl⟩) (fun c mid h => ancRelax_prog hS hR hU hK c mid h) st hok orc
  exact ⟨k, fun fuel hf => (hk fuel hf).imp fun _ h => h.1⟩

/-- **`cache_triggering_ancestors` terminates**: when its first loop succeeds, the worklist empties for every oracle -/
theorem anc_worklist_terminates (sims : List SimCfg) (orc : List Nat) (hS : ShapedT sims) (hR : TrigRange sims) (hU : UniformT sims)
    {st0 : AncState} (h0 : ancInit sims = .ok st0) :
    ∃ k, ∀ fuel, k ≤ fuel → ∃ st, ancLoop sims fuel st0 orc = .ok st :=
  have hinv := ancInit_inv hS hR hU h0
  ancLoop_terminates hS hR hU (depth_le_sum sims) _ _ st0 ⟨hinv.real, hinv.len⟩ rfl rfl orc

end Mosaik
