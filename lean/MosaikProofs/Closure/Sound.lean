/-
Soundness of `ensure_no_dataflow_cycles` (C06, "no false rejections").

Every delay the worklist stores for a pair (src, dest) is the accumulated delay of a *real* path
src → … → dest of connections (`AllReal`, preserved by the initialisation, by every relaxation and
hence by the whole loop, for every pop order).  Consequently the cycle named in the ScenarioError is
a real cycle of connections whose accumulated delay is all-zero (`reject_sound`): a scenario
without an unresolved cycle is never rejected.  No hypothesis on the connection tables is needed.
-/
import MosaikProofs.Lemmas.Tiered
import MosaikProofs.Closure.Worklist
namespace Mosaik

/-- a path of connections with its delay, accumulated the way the worklist does (a connection is
prefixed to a known path: `src_to_mid + mid_to_dest`) -/
inductive RealPath (sims : List SimCfg) : Sid → Sid → List Sid → TI → Prop
  | edge {s t : Sid} {d : TI} : (s, d) ∈ (sims.getD t {}).inputDelays → RealPath sims s t [s, t] d
  | cons {s m t : Sid} {d dm : TI} {path : List Sid} : (s, d) ∈ (sims.getD m {}).inputDelays →
      RealPath sims m t path dm → RealPath sims s t (s :: path) (TI.add d dm)

def AllReal (sims : List SimCfg) (descs : Descs) : Prop :=
  ∀ e ∈ descs, RealPath sims e.1.1 e.1.2 e.2.2 e.2.1

theorem Descs.get?_mem {d : Descs} {s t : Sid} {v : TI × List Sid} (h : d.get? s t = some v) : ((s, t), v) ∈ d :=
  assocGet_mem h

theorem allReal_set {sims : List SimCfg} {d : Descs} (h : AllReal sims d) {s t : Sid} {v : TI × List Sid}
    (hv : RealPath sims s t v.2 v.1) : AllReal sims (d.set s t v) := by
  intro e he
  rcases mem_assocPut.mp he with rfl | ⟨he, _⟩
  · exact hv
  · exact h e he

theorem cycInit_real (sims : List SimCfg) : AllReal sims (cycInit sims).descs :=
  List.foldlRecOn _ _ (fun _ he => nomatch he) fun _ h _ _ =>
    List.foldlRecOn _ _ h fun _ h _ hpd => allReal_set h (RealPath.edge hpd)

/-- the body of the two inner loops for one connection `sd` into `mid` and one row entry `e` -/
def relaxOne (mid : Sid) (sd : Sid × TI) (st : CycState) (e : Sid × TI × List Sid) : Except ClosErr CycState :=
  match st.descs.get? mid e.1 with
  | none => .ok st
  | some (midToDest, path) =>
    match TI.add? sd.2 midToDest with
    | none => .error .assertion
    | some s2d =>
      match TI.updateMin? ((st.descs.get? sd.1 e.1).map (·.1)) s2d with
      | none => .error .assertion
      | some none => .ok st
      | some (some v) => .ok { descs := st.descs.set sd.1 e.1 (v, sd.1 :: path), dirty := insertDirty st.dirty sd.1 }

theorem cycRelax_eq (sims : List SimCfg) (st : CycState) (mid : Sid) :
    cycRelax sims st mid =
      (sims.getD mid {}).inputDelays.foldlM (fun st sd => (st.descs.row mid).foldlM (relaxOne mid sd) st) st := rfl

theorem updateMin?_value {o : Option TI} {n v : TI} (h : TI.updateMin? o n = some (some v)) : v = n := by
  unfold TI.updateMin? at h
  cases o with
  | none => simp at h; exact h.symm
  | some a =>
    simp only [Option.map_eq_some_iff] at h
    obtain ⟨r, _, hr⟩ := h
    split at hr
    · cases hr
    · simp at hr; exact hr.symm

/-- whatever one inner iteration stores is the connection put in front of a stored path -/
theorem relaxOne_real {sims : List SimCfg} {mid : Sid} {sd : Sid × TI} (hsd : sd ∈ (sims.getD mid {}).inputDelays)
    {c c' : CycState} {e : Sid × TI × List Sid} (hc : AllReal sims c.descs) (hg : relaxOne mid sd c e = .ok c') :
    AllReal sims c'.descs := by
  unfold relaxOne at hg
  split at hg
  · cases hg; exact hc
  · rename_i m path hget
    split at hg
    · cases hg
    · rename_i s2d hadd
      split at hg
      · cases hg
      · cases hg; exact hc
      · rename_i v hup
        cases hg
        apply allReal_set hc
        rw [updateMin?_value hup, ← (TI.add?_eq_some_iff.mp hadd).2]
        exact RealPath.cons hsd (hc _ (Descs.get?_mem hget))

theorem cycRelax_real {sims : List SimCfg} {st st' : CycState} {mid : Sid} (h : AllReal sims st.descs)
    (hr : cycRelax sims st mid = .ok st') : AllReal sims st'.descs := by
  rw [cycRelax_eq] at hr
  refine foldlM_inv (fun s => AllReal sims s.descs) _ _ st st' h (fun b sd b' hsd hb hf => ?_) hr
  exact foldlM_inv (fun s => AllReal sims s.descs) _ _ b b' hb (fun _ _ _ _ hc hg => relaxOne_real hsd hc hg) hf

theorem cycLoop_real {sims : List SimCfg} (fuel : Nat) (st st' : CycState) (orc : List Nat) (h : AllReal sims st.descs)
    (hr : cycLoop sims fuel st orc = .ok st') : AllReal sims st'.descs := by
  rw [cycLoop_eq] at hr
  exact (wlLoop_inv _ _ _ (fun s => AllReal sims s.descs) (fun _ _ _ _ h _ hrel => cycRelax_real h hrel) _ _ _ _ h hr).1

theorem cycFind_some (n : Nat) (descs : Descs) (p : List Sid) (h : cycFind n descs = some p) :
    ∃ s d, s < n ∧ descs.get? s s = some (d, p) ∧ d.isZero = true := by
  unfold cycFind at h
  obtain ⟨s, hs, hsome⟩ := List.exists_of_findSome?_eq_some h
  refine ⟨s, ?_⟩
  cases hg : descs.get? s s with
  | none => simp [hg] at hsome
  | some v =>
    obtain ⟨d, path⟩ := v
    simp only [hg] at hsome
    split at hsome
    · rename_i hz
      cases hsome
      exact ⟨d, by simpa using hs, rfl, hz⟩
    · cases hsome

theorem cycFind_eq_none_iff (n : Nat) (descs : Descs) :
    cycFind n descs = none ↔ ∀ s, s < n → ∀ d p, descs.get? s s = some (d, p) → d.isZero = false := by
  unfold cycFind
  rw [List.findSome?_eq_none_iff]
  constructor
  · intro h s hs d p hg
    have := h s (by simpa using hs)
    simp only [hg] at this
    cases hz : d.isZero with
    | false => rfl
    | true => simp [hz] at this
  · intro h s hs
    cases hg : descs.get? s s with
    | none => rfl
    | some v =>
      obtain ⟨d, p⟩ := v
      simp only
      rw [h s (by simpa using hs) d p hg]
      simp

/-- the cycle check with the loop's fuel as a parameter (`ensureNoCycles` is the instance `closureFuel n`; the real
algorithm has no fuel) -/
def ensureNoCyclesWith (fuel : Nat) (sims : List SimCfg) (orc : List Nat) : CycResult :=
  match cycLoop sims fuel (cycInit sims) orc with
  | .error e => .error e
  | .ok st => match cycFind sims.length st.descs with
    | some p => .cycle p
    | none => .ok

theorem ensureNoCycles_eq (sims : List SimCfg) (orc : List Nat) :
    ensureNoCycles sims orc = ensureNoCyclesWith (closureFuel sims.length) sims orc := rfl

/-- each outcome of the check, read back: what the loop returned and what the scan of the diagonal found -/
theorem ensureNoCyclesWith_inv (fuel : Nat) (sims : List SimCfg) (orc : List Nat) :
    (∀ e, ensureNoCyclesWith fuel sims orc = .error e → cycLoop sims fuel (cycInit sims) orc = .error e) ∧
    (∀ p, ensureNoCyclesWith fuel sims orc = .cycle p →
      ∃ st, cycLoop sims fuel (cycInit sims) orc = .ok st ∧ cycFind sims.length st.descs = some p) ∧
    (ensureNoCyclesWith fuel sims orc = .ok →
      ∃ st, cycLoop sims fuel (cycInit sims) orc = .ok st ∧ cycFind sims.length st.descs = none) := by
  unfold ensureNoCyclesWith
  split
  · next e hl =>
    exact ⟨fun _ h => hl.trans (congrArg _ (CycResult.error.inj h)), fun _ h => (by cases h), fun h => (by cases h)⟩
  · next st hl =>
    split
    · next p hf =>
      exact ⟨fun _ h => (by cases h), fun _ h => ⟨st, hl, hf.trans (congrArg _ (CycResult.cycle.inj h))⟩, fun h => (by cases h)⟩
    · next hf => exact ⟨fun _ h => (by cases h), fun _ h => (by cases h), fun _ => ⟨st, hl, hf⟩⟩

theorem ensureNoCyclesWith_error {fuel : Nat} {sims : List SimCfg} {orc : List Nat} {e : ClosErr}
    (h : ensureNoCyclesWith fuel sims orc = .error e) : cycLoop sims fuel (cycInit sims) orc = .error e :=
  (ensureNoCyclesWith_inv fuel sims orc).1 e h

theorem ensureNoCyclesWith_cycle {fuel : Nat} {sims : List SimCfg} {orc : List Nat} {p : List Sid}
    (h : ensureNoCyclesWith fuel sims orc = .cycle p) :
    ∃ st, cycLoop sims fuel (cycInit sims) orc = .ok st ∧ cycFind sims.length st.descs = some p :=
  (ensureNoCyclesWith_inv fuel sims orc).2.1 p h

theorem ensureNoCyclesWith_ok {fuel : Nat} {sims : List SimCfg} {orc : List Nat} (h : ensureNoCyclesWith fuel sims orc = .ok) :
    ∃ st, cycLoop sims fuel (cycInit sims) orc = .ok st ∧ cycFind sims.length st.descs = none :=
  (ensureNoCyclesWith_inv fuel sims orc).2.2 h

theorem reject_sound_with (fuel : Nat) (sims : List SimCfg) (orc : List Nat) (p : List Sid)
    (h : ensureNoCyclesWith fuel sims orc = .cycle p) : ∃ s d, s < sims.length ∧ RealPath sims s s p d ∧ d.isZero = true := by
  obtain ⟨st, hl, hf⟩ := ensureNoCyclesWith_cycle h
  obtain ⟨s, d, hs, hget, hz⟩ := cycFind_some _ _ _ hf
  exact ⟨s, d, hs, cycLoop_real _ _ _ _ (cycInit_real sims) hl _ (Descs.get?_mem hget), hz⟩

/-- **C06, no false rejections.**  If `ensure_no_dataflow_cycles` rejects the scenario naming the cycle `p`, then — for
every pop order of the worklist — `p` is a real cycle of connections from a simulator back to itself whose accumulated
delay (`RealPath`: summed from the far end, as the worklist does) is all-zero. -/
theorem reject_sound (sims : List SimCfg) (orc : List Nat) (p : List Sid) (h : ensureNoCycles sims orc = .cycle p) :
    ∃ s d, s < sims.length ∧ RealPath sims s s p d ∧ d.isZero = true :=
  reject_sound_with _ sims orc p h

end Mosaik
