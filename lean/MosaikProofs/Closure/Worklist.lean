/-
What the two closures of scenario.py (`ensure_no_dataflow_cycles`, `cache_triggering_ancestors`) share as programs:
inner loops that are folds which can fail, `dirty.add` and `dirty.pop()`, and the `while dirty` loop itself.

`wlLoop` is that loop for any state with a worklist; `cycLoop` and `ancLoop` are instances (`cycLoop_eq`, `ancLoop_eq`),
because they satisfy its clauses (`wlLoop_unique`).
Every theorem about the two loops comes from one of three rules: what every pop preserves holds when the loop ends, and
it only ends on an empty worklist (`wlLoop_inv`); if every pop is defined, no assertion fires (`wlLoop_no_assertion`);
if every pop is defined and either changes nothing or decreases a well-founded measure, the worklist empties for
every oracle, a finite list continued with index 0 (`wlLoop_terminates`).
-/
import MosaikModel.Closure
namespace Mosaik

theorem foldlM_inv_done {α β ε : Type} (P : List α → β → Prop) (f : β → α → Except ε β) (l : List α) :
    ∀ (done : List α) (b0 b : β), P done b0 →
      (∀ done b a b', a ∈ l → P done b → f b a = .ok b' → P (a :: done) b') →
      l.foldlM f b0 = .ok b → P (l.reverse ++ done) b := by
  induction l with
  | nil =>
    intro done b0 b h0 _ h
    cases h
    exact h0
  | cons a l ih =>
    intro done b0 b h0 hstep h
    rw [List.foldlM_cons] at h
    cases hf : f b0 a with
    | error e => rw [hf] at h; cases h
    | ok b1 =>
      rw [hf] at h
      rw [List.reverse_cons, List.append_assoc]
      exact ih (a :: done) b1 b (hstep done b0 a b1 List.mem_cons_self h0 hf)
        (fun d b a' b' ha' => hstep d b a' b' (List.mem_cons_of_mem _ ha')) h

/-- membership in the list of processed elements that `foldlM_inv_done` ends with when started from `[]` -/
theorem mem_done {α : Type} {l : List α} {a : α} (h : a ∈ l) : a ∈ l.reverse ++ [] :=
  List.mem_append_left _ (List.mem_reverse.mpr h)

theorem foldlM_inv {α β ε : Type} (P : β → Prop) (f : β → α → Except ε β) (l : List α) (b0 b : β) (h0 : P b0)
    (hstep : ∀ b a b', a ∈ l → P b → f b a = .ok b' → P b') (h : l.foldlM f b0 = .ok b) : P b :=
  foldlM_inv_done (fun _ => P) f l [] b0 b h0 (fun _ => hstep) h

theorem foldlM_ok {α β ε : Type} (P : β → Prop) (f : β → α → Except ε β) (l : List α) :
    ∀ (b0 : β), P b0 → (∀ b a, a ∈ l → P b → ∃ b', f b a = .ok b' ∧ P b') → ∃ b, l.foldlM f b0 = .ok b ∧ P b := by
  induction l with
  | nil => exact fun b0 h0 _ => ⟨b0, rfl, h0⟩
  | cons a l ih =>
    intro b0 h0 hstep
    obtain ⟨b1, hf, h1⟩ := hstep b0 a List.mem_cons_self h0
    obtain ⟨b, hb, hP⟩ := ih b1 h1 (fun b a' ha' => hstep b a' (List.mem_cons_of_mem _ ha'))
    exact ⟨b, by rw [List.foldlM_cons, hf]; exact hb, hP⟩

theorem mem_insertDirty {l : List Sid} {s x : Sid} : x ∈ insertDirty l s ↔ x ∈ l ∨ x = s := by
  unfold insertDirty
  split
  · rename_i h
    have hs : s ∈ l := by simpa using h
    constructor
    · exact Or.inl
    · rintro (h | h)
      · exact h
      · exact h ▸ hs
  · simp

theorem mem_insertDirty_of_mem {l : List Sid} {s x : Sid} (h : x ∈ l) : x ∈ insertDirty l s := mem_insertDirty.mpr (Or.inl h)

theorem not_mem_insertDirty {l : List Sid} {s x : Sid} (h : x ∉ insertDirty l s) : x ∉ l ∧ x ≠ s := by
  rw [mem_insertDirty, not_or] at h
  exact h

theorem popAt_some {l : List Sid} {i : Nat} {mid : Sid} {rest : List Sid} (h : popAt l i = some (mid, rest)) :
    ∃ j, ∃ hj : j < l.length, mid = l[j] ∧ rest = l.eraseIdx j := by
  unfold popAt at h
  split at h
  · cases h
  · rename_i hne
    have hj : i % l.length < l.length := Nat.mod_lt _ (List.length_pos_iff.mpr (by simpa using hne))
    cases h
    exact ⟨_, hj, by rw [List.getD_eq_getElem?_getD, List.getElem?_eq_getElem hj]; rfl, rfl⟩

theorem popAt_spec {l : List Sid} {i : Nat} {mid : Sid} {rest : List Sid} (h : popAt l i = some (mid, rest)) :
    ∀ x, x ∈ l → x ≠ mid → x ∈ rest := by
  obtain ⟨j, hj, rfl, rfl⟩ := popAt_some h
  intro x hx hxm
  obtain ⟨k, hk, rfl⟩ := List.getElem_of_mem hx
  exact List.mem_eraseIdx_iff_getElem.mpr ⟨k, hk, fun hkj => hxm (by subst hkj; rfl), rfl⟩

theorem popAt_length {l : List Sid} {i : Nat} {mid : Sid} {rest : List Sid} (h : popAt l i = some (mid, rest)) :
    rest.length + 1 = l.length := by
  obtain ⟨j, hj, -, rfl⟩ := popAt_some h
  rw [List.length_eraseIdx_of_lt hj]
  exact Nat.sub_add_cancel (Nat.zero_lt_of_lt hj)

theorem popAt_none {l : List Sid} {i : Nat} (h : popAt l i = none) : l = [] := by
  unfold popAt at h
  split at h
  · rename_i he; simpa using he
  · cases h

section Worklist
variable {σ : Type} (dirty : σ → List Sid) (setDirty : σ → List Sid → σ) (relax : σ → Sid → Except ClosErr σ)

/-- `while dirty: mid = dirty.pop(); relax(mid)`, the pick taken from the oracle -/
def wlLoop : Nat → σ → List Nat → Except ClosErr σ
  | 0, st, _ => if (dirty st).isEmpty then .ok st else .error .fuel
  | fuel + 1, st, orc =>
    match popAt (dirty st) (orc.headD 0) with
    | none => .ok st
    | some (mid, rest) =>
      match relax (setDirty st rest) mid with
      | .error e => .error e
      | .ok st' => wlLoop fuel st' orc.tail

theorem wlLoop_inv (I : σ → Prop)
    (hpop : ∀ st mid rest st', I st → (∀ x, x ∈ dirty st → x ≠ mid → x ∈ rest) →
      relax (setDirty st rest) mid = .ok st' → I st') (fuel : Nat) :
    ∀ (st st' : σ) (orc : List Nat), I st → wlLoop dirty setDirty relax fuel st orc = .ok st' → I st' ∧ dirty st' = [] := by
  induction fuel with
  | zero =>
    intro st st' _ h hr
    unfold wlLoop at hr
    split at hr
    · rename_i he
      cases hr
      exact ⟨h, by simpa using he⟩
    · cases hr
  | succ fuel ih =>
    intro st st' orc h hr
    unfold wlLoop at hr
    split at hr
    · rename_i hp
      cases hr
      exact ⟨h, popAt_none hp⟩
    · rename_i mid rest hp
      split at hr
      · cases hr
      · rename_i st1 hrel
        exact ih st1 st' orc.tail (hpop st mid rest st1 h (popAt_spec hp) hrel) hr

theorem wlLoop_no_assertion (I : σ → Prop)
    (hpop : ∀ st mid rest, I st → ∃ st', relax (setDirty st rest) mid = .ok st' ∧ I st') (fuel : Nat) :
    ∀ (st : σ) (orc : List Nat), I st → wlLoop dirty setDirty relax fuel st orc ≠ .error .assertion := by
  induction fuel with
  | zero =>
    intro st _ _
    unfold wlLoop
    split <;> simp
  | succ fuel ih =>
    intro st orc h
    unfold wlLoop
    split
    · simp
    · rename_i mid rest _
      obtain ⟨st1, hrel, h1⟩ := hpop st mid rest h
      rw [hrel]
      exact ih st1 orc.tail h1

theorem wlLoop_terminates {M : Type} {r : M → M → Prop} (hwf : WellFounded r) (μ : σ → M) (I : σ → Prop)
    (hset : ∀ st rest, I st → I (setDirty st rest) ∧ μ (setDirty st rest) = μ st ∧ dirty (setDirty st rest) = rest)
    (hrelax : ∀ c mid, I c → ∃ c', relax c mid = .ok c' ∧ I c' ∧ (c' = c ∨ r (μ c') (μ c)))
    (st : σ) (hI : I st) (orc : List Nat) :
    ∃ k, ∀ fuel, k ≤ fuel → ∃ st', wlLoop dirty setDirty relax fuel st orc = .ok st' ∧ dirty st' = [] := by
  suffices ∀ (m : M) (L : Nat) (st : σ), I st → μ st = m → (dirty st).length = L → ∀ orc,
      ∃ k, ∀ fuel, k ≤ fuel → ∃ st', wlLoop dirty setDirty relax fuel st orc = .ok st' ∧ dirty st' = [] from
    this _ _ st hI rfl rfl orc
  intro m
  induction m using hwf.induction with
  | _ m ihM =>
    intro L
    induction L using Nat.strongRecOn with
    | ind L ihL =>
      intro st hI hm hL orc
      cases hp : popAt (dirty st) (orc.headD 0) with
      | none =>
        refine ⟨0, fun fuel _ => ⟨st, ?_, popAt_none hp⟩⟩
        cases fuel with
        | zero => unfold wlLoop; simp [popAt_none hp]
        | succ f => unfold wlLoop; rw [hp]
      | some v =>
        obtain ⟨mid, rest⟩ := v
        obtain ⟨hI0, hμ0, hd0⟩ := hset st rest hI
        obtain ⟨st1, hrel, hI1, hprog⟩ := hrelax (setDirty st rest) mid hI0
        have ih : ∃ k, ∀ fuel, k ≤ fuel → ∃ st', wlLoop dirty setDirty relax fuel st1 orc.tail = .ok st' ∧ dirty st' = [] := by
          rcases hprog with heq | hlt
          · -- the state is unchanged: the worklist is shorter
            subst heq
            exact ihL rest.length (by have := popAt_length hp; omega) _ hI1 (hμ0.trans hm) (by rw [hd0]) orc.tail
          · exact ihM (μ st1) (by rw [← hm, ← hμ0]; exact hlt) _ st1 hI1 rfl rfl orc.tail
        obtain ⟨k, hk⟩ := ih
        refine ⟨k + 1, fun fuel hf => ?_⟩
        cases fuel with
        | zero => omega
        | succ f =>
          unfold wlLoop
          rw [hp]
          simp only [hrel]
          exact hk f (by omega)

/-- the clauses of the loop determine it.  They are conditional equations and not one equation with a `match`: the `match`
of `cycLoop` or `ancLoop` is compiled for its state type, and `rfl` does not identify two compiled matches while what they
inspect is not a constructor -/
theorem wlLoop_unique (f : Nat → σ → List Nat → Except ClosErr σ)
    (h0 : ∀ st orc, f 0 st orc = if (dirty st).isEmpty then .ok st else .error .fuel)
    (hnone : ∀ fuel st orc, popAt (dirty st) (orc.headD 0) = none → f (fuel + 1) st orc = .ok st)
    (herr : ∀ fuel st orc mid rest e, popAt (dirty st) (orc.headD 0) = some (mid, rest) →
      relax (setDirty st rest) mid = .error e → f (fuel + 1) st orc = .error e)
    (hok : ∀ fuel st orc mid rest st', popAt (dirty st) (orc.headD 0) = some (mid, rest) →
      relax (setDirty st rest) mid = .ok st' → f (fuel + 1) st orc = f fuel st' orc.tail) :
    f = wlLoop dirty setDirty relax := by
  funext fuel
  induction fuel with
  | zero =>
    funext st orc
    exact h0 st orc
  | succ fuel ih =>
    funext st orc
    unfold wlLoop
    cases hp : popAt (dirty st) (orc.headD 0) with
    | none => exact hnone fuel st orc hp
    | some v =>
      obtain ⟨mid, rest⟩ := v
      dsimp only
      cases hr : relax (setDirty st rest) mid with
      | error e => exact herr fuel st orc mid rest e hp hr
      | ok st' =>
        rw [← ih]
        exact hok fuel st orc mid rest st' hp hr

end Worklist

theorem cycLoop_eq (sims : List SimCfg) :
    cycLoop sims = wlLoop CycState.dirty (fun st r => { st with dirty := r }) (cycRelax sims) :=
  wlLoop_unique _ _ _ (cycLoop sims) (fun _ _ => rfl) (fun _ _ _ hp => by simp only [cycLoop, hp])
    (fun _ _ _ _ _ _ hp hr => by simp only [cycLoop, hp, hr]) (fun _ _ _ _ _ _ hp hr => by simp only [cycLoop, hp, hr])

theorem ancLoop_eq (sims : List SimCfg) :
    ancLoop sims = wlLoop AncState.dirty (fun st r => { st with dirty := r }) (ancRelax sims) :=
  wlLoop_unique _ _ _ (ancLoop sims) (fun _ _ => rfl) (fun _ _ _ hp => by simp only [ancLoop, hp])
    (fun _ _ _ _ _ _ hp hr => by simp only [ancLoop, hp, hr]) (fun _ _ _ _ _ _ hp hr => by simp only [ancLoop, hp, hr])

end Mosaik
